import Proofs.SpecBridge
import Proofs.EncodeFields
/-!
# Proofs.EBridge — from the model's encoder to the specification's generator (E)

The library's encoder writes one particular legal choice: a fixed property order, zero values
omitted, user properties last. `occsOf fs ++ upOccs ups` is that choice as a list of occurrences.
-/
namespace Mq
open Spec (propDefs propDef? occLegal occOnce propsLegal PropDef propBytes propSection propVal userPropsOf subIDsOf vvOf)
open Tie (encFields kinds)

/-- `List.forall_mem_cons` for a list of at least two: with `List.forall_mem_singleton` it turns a
statement about all members of a list written out into the plain conjunction -/
theorem forall_mem_cons₂ {α : Type} {p : α → Prop} {a b : α} {l : List α} :
    (∀ x ∈ a :: b :: l, p x) ↔ p a ∧ ∀ x ∈ b :: l, p x := List.forall_mem_cons

def occsOf (fs : List (UInt8 × WVal)) : List PropOcc :=
  (fs.filter fun f => !f.2.isZero).map fun f => ⟨f.1, f.2⟩

def upOccs (ups : UserProps) : List PropOcc := ups.map fun kv => ⟨0x26, .pair kv.1 kv.2⟩

theorem encFields_eq (fs : List (UInt8 × WVal)) : encFields fs = propBytes (occsOf fs) := by
  induction fs with
  | nil => rfl
  | cons f fs ih =>
    simp only [encFields, List.flatMap_cons] at ih ⊢
    rw [ih]
    by_cases hz : f.2.isZero = true
    · simp [encPropOpt, hz, occsOf, propBytes]
    · simp [encPropOpt, hz, occsOf, propBytes, Spec.encOccS]

theorem encUserProps_eq (ups : UserProps) (h : ∀ kv ∈ ups, kv.1 ≠ []) : encUserProps ups = propBytes (upOccs ups) := by
  rw [propBytes, upOccs, List.flatMap_map, encUserProps, List.flatMap_def, List.flatMap_def]
  refine congrArg _ (List.map_congr_left fun kv hkv => ?_)
  have : kv.1.isEmpty = false := by simpa using h kv hkv
  simp only [encPropOpt, WVal.isZero, this, Spec.encOccS]; rfl

theorem propBytes_append (a b : List PropOcc) : propBytes (a ++ b) = propBytes a ++ propBytes b := by
  simp [propBytes]

theorem propBytes_eq_nil (ps : List PropOcc) : propBytes ps = [] ↔ ps = [] := by
  cases ps with
  | nil => simp [propBytes]
  | cons o ps => simp [propBytes, Spec.encOccS]

theorem props_section (fs : List (UInt8 × WVal)) (ups : UserProps) (h : ∀ kv ∈ ups, kv.1 ≠ []) (props : Bytes)
    (hp : props = encFields fs ++ encUserProps ups) :
    encVb props.length ++ props = propSection (occsOf fs ++ upOccs ups) := by
  subst hp
  rw [encFields_eq, encUserProps_eq ups h, ← propBytes_append]
  rfl

theorem unparse_of_body (sp : Spec.SPacket) {fixed : UInt8} {body : Bytes} (hfb : sp.firstByte = fixed)
    (hb : sp.body = body) : sp.unparse = frame fixed body := by
  subst hfb hb; rfl

/-- the conjuncts of every `E_T` from what is particular to the type: the abstract packet has the encoder's first byte and
body, is legal — strictly or leniently, `L` is `sp.legal = true` or `sp.legalL = true` — and reads as the packet does -/
theorem E_of_parts {sp : Spec.SPacket} {L : Prop} {fixed : UInt8} {body : Bytes} {k : Nat} {v : View}
    (hfb : sp.firstByte = fixed) (hb : sp.body = body) (hlen : body.length < 268435456) (hl : L) (hk : sp.kind = k)
    (hv : sp.view = v) :
    (L ∧ sp.body.length < 268435456) ∧ sp.unparse = frame fixed body ∧ sp.kind = k ∧ sp.view = v ∧ sp.firstByte = fixed :=
  ⟨⟨hl, hb ▸ hlen⟩, unparse_of_body sp hfb hb, hk, hv, hfb⟩

def kindsAllowed (k : Nat) (ks : List (UInt8 × WKind)) : Bool :=
  ks.all fun e => match propDef? e.1 with
    | some d => d.allowed.contains k && d.ty == e.2
    | none => false

def idsDistinct (ks : List (UInt8 × WKind)) : Bool :=
  (ks.map (·.1)).Nodup && ks.all (fun e => e.1 != 0x26)

def FieldsInRange (fs : List (UInt8 × WVal)) : Prop := ∀ f ∈ fs, Spec.valInRange f.2 = true

/-! A field list is in range entry by entry: a number or a boolean asks nothing (`num`), a string its bound
(`FieldsInRange.str`, Proofs.ESimple, where the domains' `strOK` is at hand). -/

theorem FieldsInRange.nil : FieldsInRange [] := fun _ h => nomatch h

theorem FieldsInRange.cons {f : UInt8 × WVal} {fs : List (UInt8 × WVal)} (h : Spec.valInRange f.2 = true)
    (t : FieldsInRange fs) : FieldsInRange (f :: fs) :=
  List.forall_mem_cons.mpr ⟨h, t⟩

theorem FieldsInRange.num {f : UInt8 × WVal} {fs : List (UInt8 × WVal)} (t : FieldsInRange fs)
    (h : Spec.valInRange f.2 = true := by rfl) : FieldsInRange (f :: fs) :=
  .cons h t

def UpsInRange (ups : UserProps) : Prop := ∀ kv ∈ ups, kv.1 ≠ [] ∧ kv.1.length < 65536 ∧ kv.2.length < 65536

theorem ups_keys (ups : UserProps) (h : UpsInRange ups) : ∀ kv ∈ ups, kv.1 ≠ [] := fun kv hkv => (h kv hkv).1

theorem mem_occsOf (fs : List (UInt8 × WVal)) (o : PropOcc) (h : o ∈ occsOf fs) : (o.id, o.val) ∈ fs := by
  simp only [occsOf, List.mem_map, List.mem_filter] at h
  obtain ⟨f, ⟨hf, _⟩, rfl⟩ := h
  exact hf

theorem occsOf_ids {fs : List (UInt8 × WVal)} {o : PropOcc} (h : o ∈ occsOf fs) : o.id ∈ fs.map (·.1) :=
  List.mem_map.mpr ⟨_, mem_occsOf fs o h, rfl⟩

theorem mem_upOccs (ups : UserProps) (o : PropOcc) (h : o ∈ upOccs ups) : ∃ kv ∈ ups, o = ⟨0x26, .pair kv.1 kv.2⟩ := by
  simp only [upOccs, List.mem_map] at h
  obtain ⟨kv, hkv, rfl⟩ := h
  exact ⟨kv, hkv, rfl⟩

/-- where a user property may stand and repeat. `Spec.propDefs` writes the list out twice in the entry of `0x26` and
has no name for it; `propDef?_up` holds by `rfl` only as long as this is that list. -/
def upAllowed : List Nat := [1, 2, 3, 4, 5, 6, 7, 8, 9, 10, 11, 14, 15, Spec.willK]

theorem propDef?_up : propDef? 0x26 = some { id := 0x26, ty := .pair, allowed := upAllowed, repeatable := upAllowed } := rfl

theorem userProp_legal (k : Nat) (hk : k ∈ upAllowed) (kx v : Bytes) (hr : Spec.valInRange (.pair kx v) = true) :
    occLegal k ⟨0x26, .pair kx v⟩ = true := by
  simp only [occLegal, propDef?_up, WVal.kind, hr, Bool.and_true, beq_self_eq_true]
  simpa using hk

theorem filter_count_le_one_of_nodup {α} [DecidableEq α] (l : List α) (h : l.Nodup) (a : α) : (l.filter (· == a)).length ≤ 1 := by
  rw [← List.countP_eq_length_filter, ← List.count_eq_countP, h.count]; split <;> decide

theorem occsOf_count (fs : List (UInt8 × WVal)) (a : UInt8) :
    ((occsOf fs).filter (fun x => x.id == a)).length ≤ ((fs.map (·.1)).filter (· == a)).length := by
  have hsub : ((occsOf fs).map (·.id)).Sublist (fs.map (·.1)) := by
    rw [occsOf, List.map_map]; exact List.filter_sublist.map _
  have := (hsub.filter (· == a)).length_le
  rwa [List.filter_map, List.length_map] at this

/-- `rep`: what follows the fields (user properties, subscription identifiers) -/
def RepOK (k : Nat) (fs : List (UInt8 × WVal)) (rep : List PropOcc) : Prop :=
  ∀ o ∈ rep, occLegal k o = true ∧ (∃ d, propDef? o.id = some d ∧ d.repeatable.contains k = true) ∧ o.id ∉ fs.map (·.1)

theorem field_def {k : Nat} {fs : List (UInt8 × WVal)} (hall : kindsAllowed k (kinds fs) = true) {o : PropOcc}
    (h : o ∈ occsOf fs) : ∃ d, propDef? o.id = some d ∧ d.allowed.contains k = true ∧ d.ty = o.val.kind := by
  have hka := List.all_eq_true.mp hall (o.id, o.val.kind) (List.mem_map.mpr ⟨_, mem_occsOf fs o h, rfl⟩)
  simp only at hka
  cases hd : propDef? o.id with
  | none => simp [hd] at hka
  | some d => simpa [hd] using hka

theorem occs_legal' (k : Nat) (fs : List (UInt8 × WVal)) (rep : List PropOcc)
    (hall : kindsAllowed k (kinds fs) = true) (hnd : (fs.map (·.1)).Nodup)
    (hr : FieldsInRange fs) (hrep : RepOK k fs rep) :
    propsLegal k (occsOf fs ++ rep) = true := by
  simp only [propsLegal, occOnce, Bool.and_eq_true, List.all_eq_true]
  refine ⟨fun o ho => ?_, fun o ho => ?_⟩ <;> rcases List.mem_append.mp ho with h1 | h2
  · obtain ⟨d, hd, ha, ht⟩ := field_def hall h1
    simp only [occLegal, hd, ha, ht, hr _ (mem_occsOf fs o h1), beq_self_eq_true, Bool.and_self]
  · exact (hrep o h2).1
  · -- a field occurs once: the identifiers of `fs` are distinct and none of them is in `rep`
    obtain ⟨d, hd, -, -⟩ := field_def hall h1
    have hz : rep.filter (fun x => x.id == o.id) = [] :=
      List.filter_eq_nil_iff.mpr fun x hx e => (hrep x hx).2.2 (eq_of_beq e ▸ occsOf_ids h1)
    simp only [hd, Bool.or_eq_true, decide_eq_true_eq]
    right
    rw [List.filter_append, hz, List.append_nil]
    exact Nat.le_trans (occsOf_count fs o.id) (filter_count_le_one_of_nodup _ hnd _)
  · obtain ⟨_, ⟨d, hd, hrp⟩, _⟩ := hrep o h2
    simp only [hd, hrp, Bool.true_or]

theorem upOccs_repOK (k : Nat) (hup : k ∈ upAllowed) (fs : List (UInt8 × WVal)) (ups : UserProps)
    (hu : UpsInRange ups) (hno : (0x26 : UInt8) ∉ fs.map (·.1)) : RepOK k fs (upOccs ups) := by
  intro o ho
  obtain ⟨kv, hkv, rfl⟩ := mem_upOccs ups o ho
  have := hu kv hkv
  refine ⟨userProp_legal k hup kv.1 kv.2 (by simp [Spec.valInRange, this.2.1, this.2.2]), ⟨_, propDef?_up, ?_⟩, hno⟩
  simpa using hup

theorem propVal_cons (o : PropOcc) (ps : List PropOcc) (id : UInt8) (d : VV) :
    propVal (o :: ps) id d = propVal ps id (if o.id = id then vvOf o.val else d) := rfl

theorem propVal_append (a b : List PropOcc) (id : UInt8) (d : VV) :
    propVal (a ++ b) id d = propVal b id (propVal a id d) := List.foldl_append ..

theorem occsOf_append (a b : List (UInt8 × WVal)) : occsOf (a ++ b) = occsOf a ++ occsOf b := by
  simp [occsOf]

theorem occsOf_cons (f : UInt8 × WVal) (fs : List (UInt8 × WVal)) :
    occsOf (f :: fs) = if f.2.isZero then occsOf fs else ⟨f.1, f.2⟩ :: occsOf fs := by
  simp only [occsOf, List.filter_cons]
  cases f.2.isZero <;> simp

/-- what the specification's `view` reads for an absent property of this wire type -/
def WVal.dflt : WVal → VV
  | .bin _ => .s [] | .bool _ => .b false | _ => .n 0

/-- the value the encoder omits is the one the specification reads for an absent property -/
theorem vvOf_zero {v : WVal} (h : v.isZero = true) : vvOf v = v.dflt := by
  cases v <;> simp_all [WVal.isZero, vvOf, WVal.dflt]

/-- reading a field back: its occurrence, if written, is the only one with its identifier; if omitted, the default
is the value -/
theorem propVal_occs (fs : List (UInt8 × WVal)) (rep : List PropOcc) (hnd : (fs.map (·.1)).Nodup)
    (hrep : ∀ o ∈ rep, o.id ∉ fs.map (·.1)) :
    ∀ f ∈ fs, propVal (occsOf fs ++ rep) f.1 f.2.dflt = vvOf f.2 := by
  intro f hf
  obtain ⟨a, b, rfl⟩ := List.append_of_mem hf
  have hrep' : ∀ o ∈ rep, o.id ≠ f.1 := fun o ho e => hrep o ho (e ▸ by simp)
  simp only [List.map_append, List.map_cons, List.nodup_append, List.nodup_cons, List.mem_cons, ne_eq,
    forall_eq_or_imp] at hnd
  have ha : ∀ o ∈ occsOf a, o.id ≠ f.1 := fun o ho e => hnd.2.2 _ (occsOf_ids ho) |>.1 e
  have hb : ∀ o ∈ occsOf b, o.id ≠ f.1 := fun o ho e => hnd.2.1.1 (e ▸ occsOf_ids ho)
  rw [occsOf_append, occsOf_cons, propVal_append, propVal_append, propVal_absent _ _ _ ha, propVal_absent _ _ _ hrep']
  cases hz : f.2.isZero
  · simp only [Bool.false_eq_true, if_false, propVal_cons, if_true]; exact propVal_absent _ _ _ hb
  · exact (propVal_absent _ _ _ hb).trans (vvOf_zero hz).symm

theorem upOccs_ids (ups : UserProps) : ∀ o ∈ upOccs ups, o.id = 0x26 := by
  intro o ho; obtain ⟨kv, _, rfl⟩ := mem_upOccs ups o ho; rfl

theorem userPropsOf_append (a b : List PropOcc) : userPropsOf (a ++ b) = userPropsOf a ++ userPropsOf b := by
  simp [userPropsOf, List.filterMap_append]

theorem userPropsOf_nil_of_ids (ps : List PropOcc) (h : ∀ o ∈ ps, o.id ≠ 0x26) : userPropsOf ps = [] := by
  unfold userPropsOf
  apply List.filterMap_eq_nil_iff.mpr
  intro o ho
  have := h o ho
  cases hv : o.val <;> simp [this]

theorem userPropsOf_upOccs (ups : UserProps) : userPropsOf (upOccs ups) = ups := by
  induction ups with
  | nil => rfl
  | cons kv ups ih =>
    simp only [userPropsOf, upOccs, List.map_cons, List.filterMap_cons] at ih ⊢
    simp [ih]

theorem userPropsOf_occs (fs : List (UInt8 × WVal)) (rep : List PropOcc) (hno : (0x26 : UInt8) ∉ fs.map (·.1)) :
    userPropsOf (occsOf fs ++ rep) = userPropsOf rep := by
  rw [userPropsOf_append, userPropsOf_nil_of_ids _ fun o ho e => hno (e ▸ occsOf_ids ho), List.nil_append]

theorem subIDLast_ups (ps : List PropOcc) (ups : UserProps) : Spec.subIDLast (ps ++ upOccs ups) = Spec.subIDLast ps := by
  unfold Spec.subIDLast
  rw [List.foldl_append]
  generalize List.foldl _ none ps = cur
  induction ups generalizing cur with
  | nil => rfl
  | cons kv ups ih => simp only [upOccs, List.map_cons, List.foldl_cons] at ih ⊢; exact ih cur

theorem kinds_fst (fs : List (UInt8 × WVal)) : (kinds fs).map (·.1) = fs.map (·.1) := by simp [kinds]

/-- everything the E proofs ask of a packet's (identifier, kind) list, as one check that `decide` closes on the literal -/
def schemaOK (k : Nat) (ks : List (UInt8 × WKind)) : Bool :=
  kindsAllowed k ks && idsDistinct ks && upAllowed.contains k

theorem schemaOK_parts {k : Nat} {fs : List (UInt8 × WVal)} (h : schemaOK k (kinds fs) = true) :
    kindsAllowed k (kinds fs) = true ∧ (fs.map (·.1)).Nodup ∧ (0x26 : UInt8) ∉ fs.map (·.1) ∧ k ∈ upAllowed := by
  simp only [schemaOK, idsDistinct, kinds_fst, Bool.and_eq_true, decide_eq_true_eq, List.all_eq_true, bne_iff_ne,
    List.contains_iff_mem] at h
  obtain ⟨⟨hall, hnd, hne⟩, hup⟩ := h
  refine ⟨hall, hnd, fun hm => ?_, hup⟩
  obtain ⟨e, he, h26⟩ := List.mem_map.mp hm
  exact hne (e.1, e.2.kind) (List.mem_map.mpr ⟨e, he, rfl⟩) h26

/-- What the specification sees of a property section written from the fields `fs`, then the user properties, then
`more` (PUBLISH's subscription identifiers; nothing for the other types). `occs` is the packet's own name for the list
(`T.occs`), so that the facts have the form of the unfolded `T.abs`; on a packet's field list `kinds fs` reduces to a
literal — for every type but SUBSCRIBE the literal of the decoder's `T.table`, entry for entry, which is what the `T.schema`
facts are stated over —, and `hs` is a `decide` on it. -/
theorem fields_section_more {k : Nat} (fs : List (UInt8 × WVal)) (ups : UserProps) (more occs : List PropOcc)
    (ho : occs = occsOf fs ++ (upOccs ups ++ more)) (hs : schemaOK k (kinds fs) = true) (hr : FieldsInRange fs)
    (hu : UpsInRange ups) (hm : RepOK k fs more) (hm26 : ∀ o ∈ more, o.id ≠ 0x26) {props : Bytes}
    (hp : props = encFields fs ++ encUserProps ups ++ propBytes more) :
    props = propBytes occs ∧ propsLegal k occs = true ∧ userPropsOf occs = ups
      ∧ ∀ f ∈ fs, propVal occs f.1 f.2.dflt = vvOf f.2 := by
  subst ho
  obtain ⟨hall, hnd, hno, hup⟩ := schemaOK_parts hs
  have hrep : RepOK k fs (upOccs ups ++ more) := fun o ho =>
    (List.mem_append.mp ho).elim (upOccs_repOK k hup fs ups hu hno o) (hm o)
  refine ⟨?_, occs_legal' k fs _ hall hnd hr hrep, ?_, propVal_occs fs _ hnd fun o ho => (hrep o ho).2.2⟩
  · rw [hp, encFields_eq, encUserProps_eq _ (ups_keys _ hu), propBytes_append, propBytes_append, List.append_assoc]
  · rw [userPropsOf_occs fs _ hno, userPropsOf_append, userPropsOf_upOccs, userPropsOf_nil_of_ids _ hm26, List.append_nil]

theorem fields_section {k : Nat} (fs : List (UInt8 × WVal)) (ups : UserProps) (occs : List PropOcc)
    (ho : occs = occsOf fs ++ upOccs ups) (hs : schemaOK k (kinds fs) = true) (hr : FieldsInRange fs)
    (hu : UpsInRange ups) {props : Bytes} (hp : props = encFields fs ++ encUserProps ups) :
    props = propBytes occs ∧ propsLegal k occs = true ∧ userPropsOf occs = ups
      ∧ ∀ f ∈ fs, propVal occs f.1 f.2.dflt = vvOf f.2 :=
  fields_section_more fs ups [] occs (ho.trans (congrArg _ (List.append_nil _).symm)) hs hr hu (fun _ h => nomatch h)
    (fun _ h => nomatch h) (hp.trans (List.append_nil _).symm)

end Mq
