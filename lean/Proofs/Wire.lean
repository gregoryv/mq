import Mq.Wire
/-!
# Proofs.Wire — helper lemmas about the wire types: round trips, widths, no panic
-/
namespace Mq

/-- no more items than bytes: why a loop over an encoded list has fuel enough with one unit per byte -/
theorem length_le_flatMap {α : Type} (enc : α → Bytes) (h : ∀ a, 0 < (enc a).length) (l : List α) :
    l.length ≤ (l.flatMap enc).length := by
  induction l with
  | nil => exact Nat.le_refl _
  | cons a t ih => have := h a; simp only [List.flatMap_cons, List.length_cons, List.length_append]; omega

@[simp] theorem encU16_length (v : UInt16) : (encU16 v).length = 2 := rfl
@[simp] theorem encU32_length (v : UInt32) : (encU32 v).length = 4 := rfl
@[simp] theorem encBool_length (v : Bool) : (encBool v).length = 1 := rfl
@[simp] theorem encBin_length (v : Bytes) : (encBin v).length = v.length + 2 := by simp [encBin]

/-- each byte holds its digit to the base 256, and the digits make up the number -/
theorem be16_ofNat (n : Nat) (h : n < 65536) :
    (UInt16.ofNat ((UInt8.ofNat (n / 256)).toNat * 256 + (UInt8.ofNat (n % 256)).toNat)).toNat = n := by
  rw [UInt8.toNat_ofNat_of_lt' (Nat.div_lt_of_lt_mul (k := 256) h), UInt8.toNat_ofNat_of_lt' (Nat.mod_lt n (by decide)),
    Nat.div_add_mod', UInt16.toNat_ofNat_of_lt' h]

theorem decU16_enc (v : UInt16) (rest : Bytes) : decU16 (encU16 v ++ rest) = .ok v 2 := by
  simp only [encU16, List.cons_append, List.nil_append, decU16, List.length_cons]
  have h : ¬ (rest.length + 1 + 1 < 2) := by omega
  simp only [h, if_false]
  exact congrArg (DecRes.ok · 2) (UInt16.toNat_inj.mp (be16_ofNat _ v.toNat_lt))

theorem be32_ofNat (n : Nat) (h : n < 4294967296) :
    (UInt32.ofNat ((((UInt8.ofNat (n / 16777216)).toNat * 256 + (UInt8.ofNat (n / 65536 % 256)).toNat) * 256
      + (UInt8.ofNat (n / 256 % 256)).toNat) * 256 + (UInt8.ofNat (n % 256)).toNat)).toNat = n := by
  have byte (m : Nat) : (UInt8.ofNat (m % 256)).toNat = m % 256 := UInt8.toNat_ofNat_of_lt' (Nat.mod_lt m (by decide))
  have e3 : n / 16777216 = n / 65536 / 256 := (Nat.div_div_eq_div_mul n 65536 256).symm
  have e2 : n / 65536 = n / 256 / 256 := (Nat.div_div_eq_div_mul n 256 256).symm
  rw [UInt8.toNat_ofNat_of_lt' (Nat.div_lt_of_lt_mul (k := 256) h), byte, byte, byte, e3, Nat.div_add_mod', e2,
    Nat.div_add_mod', Nat.div_add_mod', UInt32.toNat_ofNat_of_lt' h]

theorem decU32_enc (v : UInt32) (rest : Bytes) : decU32 (encU32 v ++ rest) = .ok v 4 := by
  simp only [encU32, List.cons_append, List.nil_append, decU32, List.length_cons]
  have h : ¬ (rest.length + 1 + 1 + 1 + 1 < 4) := by omega
  simp only [h, if_false]
  exact congrArg (DecRes.ok · 4) (UInt32.toNat_inj.mp (be32_ofNat _ v.toNat_lt))

theorem decBool_enc (v : Bool) (rest : Bytes) : decBool (encBool v ++ rest) = .ok v 1 := by
  cases v <;> simp [encBool, decBool]

theorem decU8_cons (a : UInt8) (rest : Bytes) : decU8 (a :: rest) = .ok a 1 := rfl

/-- a string on the wire: its length as a two-byte integer (wrapped, as `wuint16(len(v))` wraps), then its bytes -/
theorem encBin_eq (v : Bytes) : encBin v = encU16 (UInt16.ofNat v.length) ++ v := by
  -- of a length that wraps, the two bytes are the same either way
  have hi : UInt8.ofNat (v.length % 2 ^ 16 / 256) = UInt8.ofNat (v.length / 256) :=
    (congrArg UInt8.ofNat (Nat.mod_mul_right_div_self v.length 256 256)).trans UInt8.ofNat_mod_size
  have lo : v.length % 2 ^ 16 % 256 = v.length % 256 := Nat.mod_mod_of_dvd _ (by decide)
  rw [encBin, encU16, UInt16.toNat_ofNat', hi, lo]; rfl

theorem binLen_enc (n : UInt16) (rest : Bytes) : binLen (encU16 n ++ rest) = n.toNat := by rw [binLen, decU16_enc]

theorem binLen_encBin (v rest : Bytes) (h : v.length < 65536) : binLen (encBin v ++ rest) = v.length := by
  rw [encBin_eq, List.append_assoc, binLen_enc]
  exact UInt16.toNat_ofNat_of_lt' h

/-- `hold`: on a zero length prefix `decBin` returns the destination's previous content `old` (the Go code leaves the
destination as it is), so the empty string is read back only into a destination that is empty -/
theorem decBin_enc_of (old v rest : Bytes) (h : v.length < 65536) (hold : v = [] → old = []) :
    decBin old (encBin v ++ rest) = .ok v (2 + v.length) := by
  unfold decBin
  simp only [binLen_encBin _ _ h]
  have hl : (encBin v ++ rest).length = v.length + 2 + rest.length := by simp
  have h1 : ¬ ((encBin v ++ rest).length < v.length + 2) := by omega
  simp only [h1, if_false]
  by_cases h0 : v.length = 0
  · have hv : v = [] := List.eq_nil_of_length_eq_zero h0
    subst hv
    rw [hold rfl]
    simp
  · simp only [h0, if_false]
    simp [encBin]

theorem decBin_enc (v rest : Bytes) (h : v.length < 65536) :
    decBin [] (encBin v ++ rest) = .ok v (2 + v.length) :=
  decBin_enc_of [] v rest h fun _ => rfl

theorem decPair_enc (k v rest : Bytes) (hk : k.length < 65536) (hv : v.length < 65536) :
    decPair (encPair (k, v) ++ rest) = .ok (k, v) (2 + k.length + (2 + v.length)) := by
  unfold decPair encPair
  simp only [List.append_assoc, decBin_enc k _ hk]
  have hl : ¬ ((encBin k ++ (encBin v ++ rest)).length < k.length + 2) := by simp
  simp only [hl, if_false]
  have hd : List.drop (k.length + 2) (encBin k ++ (encBin v ++ rest)) = encBin v ++ rest := by
    have : (encBin k).length = k.length + 2 := by simp
    rw [← this, List.drop_left]
  simp only [hd, decBin_enc v _ hv]

/-- `d ≠ []` is the guard of `buffer.get` (`b.i >= len(b.data)`); the decoders that index `data[0]` unguarded (`decU8`,
`decBool`) rely on it -/
def Dec.NoPanic {α} (dec : Dec α) : Prop := ∀ d, d ≠ [] → dec d ≠ .panic

theorem noPanic_u16 : (decU16).NoPanic := fun d _ => by
  unfold decU16
  match d with
  | [] | [_] => nofun
  | _ :: _ :: _ => split <;> nofun

theorem noPanic_u32 : (decU32).NoPanic := fun d _ => by
  unfold decU32
  match d with
  | [] | [_] | [_, _] | [_, _, _] => nofun
  | _ :: _ :: _ :: _ :: _ => split <;> nofun

theorem decBin_no_panic (old d : Bytes) : decBin old d ≠ .panic := by
  unfold decBin
  generalize binLen d = n
  simp only
  split
  · nofun
  · split <;> nofun

theorem noPanic_bin (old : Bytes) : (decBin old).NoPanic := fun d _ => decBin_no_panic old d

theorem decBin_ok_len (d v : Bytes) (w : Nat) (h : decBin [] d = .ok v w) : w ≤ d.length ∧ v.length + 2 = w := by
  unfold decBin at h
  generalize binLen d = n at h
  simp only at h
  split at h
  next => cases h
  next hlen =>
    split at h
    next h0 => subst h0; cases h; exact ⟨Nat.le_of_not_lt hlen, rfl⟩
    next h0 =>
      cases h
      rw [List.length_take, List.length_drop, Nat.min_eq_left (by omega)]
      exact ⟨by omega, Nat.add_comm _ _⟩

theorem decBin_ok_pos (d v : Bytes) (w : Nat) (h : decBin [] d = .ok v w) : 0 < w :=
  (decBin_ok_len d v w h).2 ▸ Nat.succ_pos _

theorem noPanic_pair : (decPair).NoPanic := by
  intro d _
  unfold decPair
  split
  next k w hk =>
    have := decBin_ok_len d k w hk
    rw [if_neg (by omega)]
    split
    · nofun
    · nofun
    next h => exact absurd h (decBin_no_panic _ _)
  next => nofun
  next h => exact absurd h (decBin_no_panic _ _)

theorem noPanic_u8 : (decU8).NoPanic := by
  intro d h
  cases d with
  | nil => exact absurd rfl h
  | cons a t => simp [decU8]

theorem noPanic_bool : (decBool).NoPanic := by
  intro d h
  cases d with
  | nil => exact absurd rfl h
  | cons a t =>
    simp only [decBool]
    split
    · simp
    · split <;> simp

theorem noPanic_raw : (decRaw).NoPanic := fun d _ => by simp [decRaw]

end Mq
