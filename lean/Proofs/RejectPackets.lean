import Proofs.Cut
import Proofs.RejectProps
import Proofs.DSimple
import Proofs.DSub
import Proofs.DPublish
import Proofs.DConnect
/-!
# Proofs.RejectPackets — per packet type: a legal frame cut strictly inside a field (C09 a), and a frame whose
property section reaches a malformed property (C09 b, c, d), are rejected

Each proof walks the type's stage list (`Proofs.Stages`): which stage reads which bytes, which stage is cut or fails.
-/
namespace Mq
open Spec (SPacket Form propSection StrictlyInside propsLegal)
open Stage

theorem frameOutcome_failed (b0 : UInt8) (body : Bytes) (hne : body ≠ [])
    (h : ∃ e, ((Packet.dispatch b0).unmarshal body).2 = .err e) : ∃ e, frameOutcome b0 body = .err e :=
  h.imp fun _ => (frameOutcome_eq_err (mt List.eq_nil_of_length_eq_zero hne)).mpr

theorem Packet.Runs.rejects {α : Type} {b0 : UInt8} {C : α → Packet} {ss : Bytes → List (Stage α)} {p : α} {body : Bytes}
    (hr : Packet.Runs b0 C ss p) (hne : body ≠ []) (h : (seq (ss body) ({ rest := body, st := .ok }, p)).1.Failed) :
    ∃ e, frameOutcome b0 body = .err e :=
  frameOutcome_failed b0 body hne (by rw [hr.dispatch, hr.unmarshal]; exact h)

/-- a property section that declares length `L`, starts with the well-formed properties `pre`, goes on with `bad` and then
with anything -/
def badSection (L : Nat) (pre : List PropOcc) (bad suf : Bytes) : Bytes :=
  encVb L ++ (pre.flatMap encOcc ++ (bad ++ suf))

/-- a property stage that meets such a section fails: it reads the legal properties `pre` and, the declared length not being
used up, goes on to the malformed one -/
theorem Stage.Fails.badProps {α : Type} {tbl : PropTable} {oldOf : α → UInt8 → List PropOcc → Bytes} {apply : α → PropOcc → α}
    {ss : List (Stage α)} {p : α} {k L : Nat} {pre : List PropOcc} {bad suf : Bytes} (hagree : tablesAgree k tbl = true)
    (hl : propsLegal k pre = true) (hold : OldOk tbl (oldOf p)) (hL : L < 268435456)
    (hreach : (pre.flatMap encOcc).length < L) (hbad : BadProp tbl bad) :
    Fails (.props tbl oldOf apply :: ss) ({ rest := badSection L pre bad suf, st := .ok }, p) :=
  have hok := propsOk_of_legal k tbl hagree pre hl
  .here (getAny_bad tbl _ pre bad suf L hL hok (hold.fresh k pre hl hok) hreach hbad)

/-! In the `bad_*` theorems the fixed fields in front of the section are arbitrary; `suf` stands for whatever follows
the malformed property (more properties, payload). -/

section ReasonProps
variable {α : Type} {rd : α → UInt8} {wr : α → UInt8 → α} {tbl : PropTable} {oldOf : α → UInt8 → List PropOcc → Bytes}
  {apply : α → PropOcc → α}

/-- The tail PUBACK … PUBCOMP, DISCONNECT and AUTH share (`Parses.reasonProps` on the accepting side), cut inside a field:
only a property section has an interior. -/
theorem Stage.Cuts.reasonProps (p : α) (form : Form) (reason : UInt8)
    (ps : List PropOcc) (hlen : (SPacket.disconnect form reason ps).body.length < 268435456) :
    (seq [.get (fun _ => decU8) rd wr, .props tbl oldOf apply]).Cuts p (SPacket.disconnect form reason ps).body
      (SPacket.disconnect form reason ps).fieldLens := by
  cases form with
  | bare => exact Cuts.nil
  | reason => exact Cuts.byte
  | full =>
    have hsec := section_fits ps [reason] [] (by simpa [SPacket.body] using hlen)
    exact Chain.cuts (.cons (Reads.u8 reason) Cuts.byte rfl (.last (Cuts.props ps hsec))) ⟨.get, .props, trivial⟩

theorem Packet.Runs.rejects_reasonProps {C : α → Packet} {b0 : UInt8} {p : α}
    (hr : Packet.Runs b0 C (fun _ => [.get (fun _ => decU8) rd wr, .props tbl oldOf apply]) p) {form : Form} {reason : UInt8}
    {ps : List PropOcc} (hlen : (SPacket.disconnect form reason ps).body.length < 268435456) {k : Nat}
    (hk : StrictlyInside (SPacket.disconnect form reason ps).fieldLens k) :
    ∃ e, frameOutcome b0 ((SPacket.disconnect form reason ps).body.take k) = .err e := by
  refine hr.rejects (take_ne_nil_of_inside _ _ k hk ?_) (Cuts.reasonProps p form reason ps hlen k hk)
  cases form with
  | bare => exact absurd hk (strictlyInside_nil _)
  | _ => simp [SPacket.body]

end ReasonProps

theorem ConnAck.sticky : All Sticky ConnAck.stages :=
  ⟨.get, .get, .props, trivial⟩

theorem C09a_connack (sess : Bool) (reason : UInt8) (ps : List PropOcc) (hl : (SPacket.connack sess reason ps).Legal)
    (k : Nat) (hk : StrictlyInside (SPacket.connack sess reason ps).fieldLens k) :
    ∃ e, frameOutcome 0x20 ((SPacket.connack sess reason ps).body.take k) = .err e := by
  have hlen := section_fits ps [if sess then 1 else 0, reason] [] (by simpa [SPacket.body] using hl.2)
  refine ConnAck.runs.rejects (take_ne_nil_of_inside _ _ k hk (by simp [SPacket.body])) (Chain.cuts ?_ ConnAck.sticky k hk)
  exact .cons (Reads.u8 _) Cuts.byte rfl <| .cons (Reads.u8 _) Cuts.byte rfl <|
    .last (Cuts.props ps hlen)

theorem bad_connack (fl rc : UInt8) (L : Nat) (pre : List PropOcc) (bad suf : Bytes) (hl : propsLegal 2 pre = true)
    (hL : L < 268435456) (hreach : (pre.flatMap encOcc).length < L) (hbad : BadProp ConnAck.table bad) :
    ∃ e, frameOutcome 0x20 (fl :: rc :: badSection L pre bad suf) = .err e := by
  refine ConnAck.runs.rejects (by simp) (Fails.failed ?_ ConnAck.sticky)
  exact .after (d := [fl]) (Reads.u8 fl) <| .after (d := [rc]) (Reads.u8 rc) <|
    .badProps ConnAck.agree hl (.lastBin rfl) hL hreach hbad

theorem Disconnect.sticky : All Sticky Disconnect.stages :=
  ⟨.get, .props, trivial⟩

theorem C09a_disconnect (form : Form) (reason : UInt8) (ps : List PropOcc) (hl : (SPacket.disconnect form reason ps).Legal)
    (k : Nat) (hk : StrictlyInside (SPacket.disconnect form reason ps).fieldLens k) :
    ∃ e, frameOutcome 0xe0 ((SPacket.disconnect form reason ps).body.take k) = .err e :=
  Disconnect.runs.rejects_reasonProps hl.2 hk

theorem bad_disconnect (rc : UInt8) (L : Nat) (pre : List PropOcc) (bad suf : Bytes) (hl : propsLegal 14 pre = true)
    (hL : L < 268435456) (hreach : (pre.flatMap encOcc).length < L) (hbad : BadProp Disconnect.table bad) :
    ∃ e, frameOutcome 0xe0 (rc :: badSection L pre bad suf) = .err e := by
  refine Disconnect.runs.rejects (by simp) (Fails.failed ?_ Disconnect.sticky)
  exact .after (d := [rc]) (Reads.u8 rc) <| .badProps Disconnect.agree hl (.lastBin rfl) hL hreach hbad

theorem Auth.sticky : All Sticky Auth.stages :=
  ⟨.get, .props, trivial⟩

theorem C09a_auth (form : Form) (reason : UInt8) (ps : List PropOcc) (hl : (SPacket.auth form reason ps).Legal)
    (k : Nat) (hk : StrictlyInside (SPacket.auth form reason ps).fieldLens k) :
    ∃ e, frameOutcome 0xf0 ((SPacket.auth form reason ps).body.take k) = .err e :=
  Auth.runs.rejects_reasonProps hl.2 hk

theorem bad_auth (rc : UInt8) (L : Nat) (pre : List PropOcc) (bad suf : Bytes) (hl : propsLegal 15 pre = true)
    (hL : L < 268435456) (hreach : (pre.flatMap encOcc).length < L) (hbad : BadProp Auth.table bad) :
    ∃ e, frameOutcome 0xf0 (rc :: badSection L pre bad suf) = .err e := by
  refine Auth.runs.rejects (by simp) (Fails.failed ?_ Auth.sticky)
  exact .after (d := [rc]) (Reads.u8 rc) <| .badProps Auth.agree hl (.lastBin rfl) hL hreach hbad

theorem Ack.sticky (data : Bytes) : All Sticky (Ack.stages data) :=
  ⟨.get, .when ⟨.get, .props, trivial⟩, trivial⟩

/-- the reason code and the properties are looked at only if more than two bytes arrived (`len(data) > 2`):
a cut inside the packet identifier is found by the first `get`, one further on has left more than two bytes -/
theorem Ack.cut (fx : UInt8) (k : Nat) (pid : UInt16) (form : Form) (reason : UInt8) (ps : List PropOcc)
    (hlen : (SPacket.ack k pid form reason ps).body.length < 268435456)
    (c : Nat) (hc : StrictlyInside (SPacket.ack k pid form reason ps).fieldLens c) :
    (seq (Ack.stages ((SPacket.ack k pid form reason ps).body.take c))
      ({ rest := (SPacket.ack k pid form reason ps).body.take c, st := .ok }, { fixed := fx })).1.Failed := by
  refine Fails.failed (.cut_cons (Reads.u16 pid) (Cuts.u16 pid) rfl hc fun c' e h => .here ?_) (Ack.sticky _)
  have h2 : (List.take c (SPacket.ack k pid form reason ps).body).length > 2 := by
    have := h.lt; have := h.pos
    cases form <;> simp [SPacket.body, encU16] at this e ⊢ <;> omega
  rw [Stage.when_pos h2]
  exact Cuts.reasonProps _ form reason ps (Nat.lt_of_le_of_lt (List.length_append ▸ Nat.le_add_left _ _) hlen) c' h

theorem C09a_ack (k : Nat) (pid : UInt16) (form : Form) (reason : UInt8) (ps : List PropOcc)
    (hl : (SPacket.ack k pid form reason ps).Legal) (c : Nat) (hc : StrictlyInside (SPacket.ack k pid form reason ps).fieldLens c) :
    ∃ e, frameOutcome (SPacket.ack k pid form reason ps).firstByte ((SPacket.ack k pid form reason ps).body.take c) = .err e := by
  obtain ⟨hleg, hlen⟩ := hl
  simp only [SPacket.legal, Bool.and_eq_true, decide_eq_true_eq] at hleg
  obtain ⟨⟨⟨hk1, hk2⟩, _⟩, _⟩ := hleg
  obtain ⟨C, -, hrun⟩ := Ack.runs (ack_nibble k hk2 pid form reason ps) (by omega)
  exact hrun.rejects (take_ne_nil_of_inside _ _ c hc (fun h => ack_body_ne k pid form reason ps (by rw [h]; rfl)))
    (Ack.cut _ k pid form reason ps hlen c hc)

theorem bad_ack (b0 : UInt8) (k : Nat) (hk : (b0 = 0x40 ∧ k = 4) ∨ (b0 = 0x50 ∧ k = 5) ∨ (b0 = 0x62 ∧ k = 6) ∨ (b0 = 0x70 ∧ k = 7))
    (pid : UInt16) (rc : UInt8) (L : Nat) (pre : List PropOcc) (bad suf : Bytes) (hl : propsLegal k pre = true)
    (hL : L < 268435456) (hreach : (pre.flatMap encOcc).length < L) (hbad : BadProp Ack.table bad) :
    ∃ e, frameOutcome b0 (encU16 pid ++ (rc :: badSection L pre bad suf)) = .err e := by
  have hb : (b0 >>> 4).toNat = k := by rcases hk with ⟨rfl, rfl⟩ | ⟨rfl, rfl⟩ | ⟨rfl, rfl⟩ | ⟨rfl, rfl⟩ <;> rfl
  have hk' : k = 4 ∨ k = 5 ∨ k = 6 ∨ k = 7 := by omega
  obtain ⟨C, -, hrun⟩ := Ack.runs hb hk'
  refine hrun.rejects (by simp [encU16]) (Fails.failed ?_ (Ack.sticky _))
  refine .after (Reads.u16 pid) <| .here ?_
  rw [Stage.when_pos (by simp [encU16])]
  exact Fails.failed (.after (d := [rc]) (Reads.u8 rc) <| .badProps (Ack.agree k hk') hl (.lastBin rfl) hL hreach hbad)
    ⟨.get, .props, trivial⟩

theorem SubAck.sticky : All Sticky SubAck.stages :=
  ⟨.get, .props, fun _ hx => hx, trivial⟩

theorem C09a_suback (k : Nat) (pid : UInt16) (ps : List PropOcc) (codes : Bytes)
    (hl : (SPacket.suback k pid ps codes).Legal) (c : Nat) (hc : StrictlyInside (SPacket.suback k pid ps codes).fieldLens c) :
    ∃ e, frameOutcome (SPacket.suback k pid ps codes).firstByte ((SPacket.suback k pid ps codes).body.take c) = .err e := by
  obtain ⟨hleg, hlen⟩ := hl
  simp only [SPacket.legal, Bool.and_eq_true, Bool.or_eq_true, beq_iff_eq] at hleg
  have hsec := section_fits ps (encU16 pid) codes (by simpa [SPacket.body] using hlen)
  obtain ⟨C, -, hrun⟩ := SubAck.runs (nibble_ofNat k (by omega)) hleg.1.1
  refine hrun.rejects (take_ne_nil_of_inside _ _ c hc (by simp [SPacket.body, encU16])) (Chain.cuts ?_ SubAck.sticky c hc)
  -- body and field map unfolded and bracketed the way the chain takes them apart: the identifier, then section and codes
  show Chain _ _ (encU16 pid ++ propSection ps ++ codes)
    ([(2, true)] ++ ([((propSection ps).length, true)] ++ codes.map fun _ => (1, true)))
  rw [List.append_assoc]
  -- the reason codes are single bytes
  exact .cons (Reads.u16 pid) (Cuts.u16 pid) rfl <|
    .last ((Cuts.props ps hsec).append_none (l := [_]) rfl codes (strictlyInside_ones codes))

theorem bad_suback (b0 : UInt8) (k : Nat) (hk : (b0 = 0x90 ∧ k = 9) ∨ (b0 = 0xb0 ∧ k = 11))
    (pid : UInt16) (L : Nat) (pre : List PropOcc) (bad suf : Bytes) (hl : propsLegal k pre = true)
    (hL : L < 268435456) (hreach : (pre.flatMap encOcc).length < L) (hbad : BadProp SubAck.table bad) :
    ∃ e, frameOutcome b0 (encU16 pid ++ badSection L pre bad suf) = .err e := by
  have hb : (b0 >>> 4).toNat = k := by rcases hk with ⟨rfl, rfl⟩ | ⟨rfl, rfl⟩ <;> rfl
  have hk' : k = 9 ∨ k = 11 := by omega
  obtain ⟨C, -, hrun⟩ := SubAck.runs hb hk'
  refine hrun.rejects (by simp [encU16]) (Fails.failed ?_ SubAck.sticky)
  exact .after (Reads.u16 pid) <| .badProps (SubAck.agree k hk') hl (.lastBin rfl) hL hreach hbad

theorem Publish.sticky : All Sticky Publish.stages :=
  ⟨.get, .when ⟨.get, trivial⟩, .props, .when ⟨.get, trivial⟩, trivial⟩

theorem Publish.cuts_pid (p : Publish) (qos : UInt8) (hp : p.hasPacketID = decide (qos ≠ 0)) (pid : UInt16) :
    (Stage.when (fun s : Buf × Publish => s.2.hasPacketID = true)
        [.get (fun _ => decU16) (·.packetID) (fun p v => { p with packetID := v })]).Cuts
      p (if qos = 0 then [] else encU16 pid) (if qos = 0 then [] else [(2, true)]) := by
  by_cases h0 : qos = 0
  · simp only [h0, if_true]; exact Cuts.nil
  · simp only [h0, if_false]; exact Cuts.when_pos (fun _ => by simp [hp, h0]) (Cuts.seq_single (Cuts.u16 pid))

theorem C09a_publish (dup : Bool) (qos : UInt8) (retain : Bool) (topic : Bytes) (pid : UInt16)
    (ps : List PropOcc) (payload : Bytes) (hl : (SPacket.publish dup qos retain topic pid ps payload).Legal)
    (c : Nat) (hc : StrictlyInside (SPacket.publish dup qos retain topic pid ps payload).fieldLens c) :
    ∃ e, frameOutcome (SPacket.publish dup qos retain topic pid ps payload).firstByte
      ((SPacket.publish dup qos retain topic pid ps payload).body.take c) = .err e := by
  obtain ⟨hleg, hlen⟩ := hl
  simp only [SPacket.legal, Bool.and_eq_true, decide_eq_true_eq, SPacket.strOK] at hleg
  obtain ⟨⟨hq, htopic⟩, -⟩ := hleg
  obtain ⟨hfb, -, -, -, hpid⟩ := publish_first dup retain qos hq topic pid ps payload
  have hsec := section_fits ps (encBin topic ++ if qos = 0 then [] else encU16 pid) payload (by simpa [SPacket.body] using hlen)
  refine (Publish.runs hfb).rejects (take_ne_nil_of_inside _ _ c hc (by simp [SPacket.body, encBin])) (Chain.cuts ?_ Publish.sticky c hc)
  simp only [SPacket.body, SPacket.fieldLens, List.append_assoc]
  -- the raw payload has no interior
  exact .cons (Reads.bin topic htopic fun _ => rfl) (Cuts.bin topic htopic) rfl <|
    .cons (Publish.reads_pid { fixed := _, topicName := topic } qos hpid pid) (Publish.cuts_pid { fixed := _, topicName := topic } qos hpid pid) (by split <;> simp [encU16]) <|
    .last ((Cuts.props ps hsec).append_none (l := [_]) rfl payload fun k hk => by
      simpa using (strictlyInside_single hk).1)

theorem bad_publish (dup retain : Bool) (qos : UInt8) (hq : qos ≤ 2) (topic : Bytes) (ht : topic.length < 65536) (pid : UInt16)
    (L : Nat) (pre : List PropOcc) (bad suf : Bytes) (hl : propsLegal 3 pre = true)
    (hL : L < 268435456) (hreach : (pre.flatMap encOcc).length < L) (hbad : BadProp Publish.table bad) :
    ∃ e, frameOutcome (Spec.SPacket.publish dup qos retain topic pid [] []).firstByte
      (encBin topic ++ ((if qos = 0 then [] else encU16 pid) ++ badSection L pre bad suf)) = .err e := by
  obtain ⟨hfb, -, -, -, hpid⟩ := publish_first dup retain qos hq topic pid [] []
  refine (Publish.runs hfb).rejects (by simp [encBin]) (Fails.failed ?_ Publish.sticky)
  exact .after (Reads.bin topic ht fun _ => rfl) <| .after (Publish.reads_pid { fixed := _, topicName := topic } qos hpid pid) <|
    .badProps Publish.agree hl (.lastBin rfl) hL hreach hbad

theorem Subscribe.filterLoop_failed (fuel : Nat) (b : Buf) (acc : List TopicFilter) (h : b.Failed) (hf : 0 < fuel) :
    (Subscribe.filterLoop fuel b acc).1.Failed :=
  Subscribe.filterLoop_eq.failed (fun _ hb => get_failed _ _ _ (get_failed _ _ _ hb)) fuel b acc h hf

theorem Unsubscribe.filterLoop_failed (fuel : Nat) (b : Buf) (acc : List Bytes) (h : b.Failed) (hf : 0 < fuel) :
    (Unsubscribe.filterLoop fuel b acc).1.Failed :=
  Unsubscribe.filterLoop_eq.failed (fun _ hb => get_failed _ _ _ hb) fuel b acc h hf

theorem Subscribe.filterLoop_cut (fs : List (Bytes × UInt8)) (c : Nat) (acc : List TopicFilter) (fuel : Nat)
    (hstr : ∀ g ∈ fs, g.1.length < 65536)
    (hc : StrictlyInside (fs.flatMap fun f => [((encBin f.1).length, true), (1, true)]) c)
    (hfuel : ((fs.flatMap encFilter).take c).length < fuel) :
    (Subscribe.filterLoop fuel { rest := (fs.flatMap encFilter).take c, st := .ok } acc).1.Failed :=
  Subscribe.filterLoop_eq.cut (mk := fun g => ⟨g.1, g.2⟩) (fun g => by simp [encFilter]) (fun g => by simp [encFilter])
    fs c acc fuel (fun g hg rest => Subscribe.filterBody_reads g (hstr g hg) rest)
    (fun g hg k hk => by
      rcases strictlyInside_cons _ _ _ hk with ⟨_, h0, h1⟩ | ⟨_, h'⟩
      · rw [show encFilter g = encBin g.1 ++ [g.2] from rfl, List.take_append_of_le_length (by omega)]
        simp only [Subscribe.filterBody, get_bin_cut g.1 [] [] (hstr g hg) k h0 h1]
        exact get_failed _ _ _ ⟨_, rfl⟩
      · exact absurd (strictlyInside_single h') (by omega)) hc hfuel

theorem Unsubscribe.filterLoop_cut (fs : List Bytes) (c : Nat) (acc : List Bytes) (fuel : Nat)
    (hstr : ∀ g ∈ fs, g.length < 65536) (hc : StrictlyInside (fs.map fun f => ((encBin f).length, true)) c)
    (hfuel : ((fs.flatMap encBin).take c).length < fuel) :
    (Unsubscribe.filterLoop fuel { rest := (fs.flatMap encBin).take c, st := .ok } acc).1.Failed :=
  Unsubscribe.filterLoop_eq.cut (mk := id) (lens := fun f => [((encBin f).length, true)]) (fun g => by simp) (fun g => by simp)
    fs c acc fuel (fun g hg rest => get_bin g (hstr g hg) rest)
    (fun g hg k hk => by
      obtain ⟨_, h0, h1⟩ := strictlyInside_single hk
      simp only [Unsubscribe.filterBody, get_bin_cut g [] [] (hstr g hg) k h0 h1]
      exact ⟨_, rfl⟩) (by rw [← List.map_eq_flatMap]; exact hc) hfuel

theorem Subscribe.sticky (data : Bytes) : All Sticky (Subscribe.stages data) :=
  ⟨.get, .props, fun _ hx => Subscribe.filterLoop_failed _ _ _ hx (by omega), trivial⟩

theorem C09a_subscribe (pid : UInt16) (ps : List PropOcc) (filters : List (Bytes × UInt8))
    (hl : (SPacket.subscribe pid ps filters).Legal) (c : Nat) (hc : StrictlyInside (SPacket.subscribe pid ps filters).fieldLens c) :
    ∃ e, frameOutcome 0x82 ((SPacket.subscribe pid ps filters).body.take c) = .err e := by
  obtain ⟨hleg, hlen⟩ := hl
  simp only [SPacket.legal, Bool.and_eq_true, List.all_eq_true, SPacket.strOK, decide_eq_true_eq] at hleg
  obtain ⟨⟨hps, _⟩, hfs⟩ := hleg
  have hstr : ∀ g ∈ filters, g.1.length < 65536 := fun g hg => (hfs g hg).1.1.1
  refine Subscribe.runs.rejects (take_ne_nil_of_inside _ _ c hc (by simp [SPacket.body, encU16]))
    (Fails.failed ?_ (Subscribe.sticky _))
  have hsec := section_fits ps (encU16 pid) (filters.flatMap encFilter) hlen
  rw [show (SPacket.subscribe pid ps filters).body = encU16 pid ++ (propSection ps ++ filters.flatMap encFilter) from
    List.append_assoc _ _ _]
  -- the filter loop takes its fuel from the length of the cut data: it is cut for this `c`, not for every position
  refine .cut_cons (m := [_] ++ _) (Reads.u16 pid) (Cuts.u16 pid) rfl hc fun c1 e1 h1 => ?_
  refine .cut_cons (Reads.props_legal 8 Subscribe.agree _ ps hps .noOld hsec) (Cuts.props ps hsec) rfl h1 fun c2 e2 h2 => .here ?_
  exact Subscribe.filterLoop_cut filters c2 _ _ hstr h2 (by simp only [List.length_take, List.length_append]; omega)

theorem bad_subscribe (pid : UInt16) (L : Nat) (pre : List PropOcc) (bad suf : Bytes) (hl : propsLegal 8 pre = true)
    (hL : L < 268435456) (hreach : (pre.flatMap encOcc).length < L) (hbad : BadProp Subscribe.table bad) :
    ∃ e, frameOutcome 0x82 (encU16 pid ++ badSection L pre bad suf) = .err e := by
  refine Subscribe.runs.rejects (by simp [encU16]) (Fails.failed ?_ (Subscribe.sticky _))
  exact .after (Reads.u16 pid) <| .badProps Subscribe.agree hl .noOld hL hreach hbad

theorem Unsubscribe.sticky (data : Bytes) : All Sticky (Unsubscribe.stages data) :=
  ⟨.get, .props, fun _ hx => Unsubscribe.filterLoop_failed _ _ _ hx (by omega), trivial⟩

theorem C09a_unsubscribe (pid : UInt16) (ps : List PropOcc) (filters : List Bytes)
    (hl : (SPacket.unsubscribe pid ps filters).Legal) (c : Nat) (hc : StrictlyInside (SPacket.unsubscribe pid ps filters).fieldLens c) :
    ∃ e, frameOutcome 0xa2 ((SPacket.unsubscribe pid ps filters).body.take c) = .err e := by
  obtain ⟨hleg, hlen⟩ := hl
  simp only [SPacket.legal, Bool.and_eq_true, List.all_eq_true, SPacket.strOK, decide_eq_true_eq] at hleg
  obtain ⟨⟨hps, _⟩, hstr⟩ := hleg
  refine Unsubscribe.runs.rejects (take_ne_nil_of_inside _ _ c hc (by simp [SPacket.body, encU16]))
    (Fails.failed ?_ (Unsubscribe.sticky _))
  have hsec := section_fits ps (encU16 pid) (filters.flatMap encBin) hlen
  rw [show (SPacket.unsubscribe pid ps filters).body = encU16 pid ++ (propSection ps ++ filters.flatMap encBin) from
    List.append_assoc _ _ _]
  refine .cut_cons (m := [_] ++ _) (Reads.u16 pid) (Cuts.u16 pid) rfl hc fun c1 e1 h1 => ?_
  refine .cut_cons (Reads.props_legal 10 Unsubscribe.agree _ ps hps .noOld hsec) (Cuts.props ps hsec) rfl h1 fun c2 e2 h2 => .here ?_
  exact Unsubscribe.filterLoop_cut filters c2 _ _ hstr h2 (by simp only [List.length_take, List.length_append]; omega)

theorem bad_unsubscribe (pid : UInt16) (L : Nat) (pre : List PropOcc) (bad suf : Bytes) (hl : propsLegal 10 pre = true)
    (hL : L < 268435456) (hreach : (pre.flatMap encOcc).length < L) (hbad : BadProp ([] : PropTable) bad) :
    ∃ e, frameOutcome 0xa2 (encU16 pid ++ badSection L pre bad suf) = .err e := by
  refine Unsubscribe.runs.rejects (by simp [encU16]) (Fails.failed ?_ (Unsubscribe.sticky _))
  exact .after (Reads.u16 pid) <| .badProps Unsubscribe.agree hl .noOld hL hreach hbad

end Mq
