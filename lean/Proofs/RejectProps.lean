import Mq.Packet
import Spec
import Proofs.Reject
import Proofs.PropLoop
/-!
# Proofs.RejectProps — the property loop after a run of well-formed properties meets a malformed one
-/
namespace Mq

/-- the bytes start a property that a decoder with table `tbl` must not accept: an identifier it does not know, a boolean
property with a value other than 0 and 1, a variable byte integer that runs to a fifth byte -/
inductive BadProp (tbl : PropTable) : Bytes → Prop
  /-- 0x26 (user property) and 0x0b (subscription identifier) are handled by the loop itself, outside the table -/
  | unknownId (id : UInt8) (rest : Bytes) : tbl.lookup id = none → id ≠ 0x26 → id ≠ 0x0b → BadProp tbl (id :: rest)
  | badBool (id b : UInt8) (rest : Bytes) : tbl.lookup id = some .bool → b ≠ 0 → b ≠ 1 → BadProp tbl (id :: b :: rest)
  | longVb (id b1 b2 b3 b4 b5 : UInt8) (rest : Bytes) :
      (tbl.lookup id = some .vb ∨ (tbl.lookup id = none ∧ id = 0x0b)) →
      128 ≤ b1.toNat → 128 ≤ b2.toNat → 128 ≤ b3.toNat → 128 ≤ b4.toNat →
      BadProp tbl (id :: b1 :: b2 :: b3 :: b4 :: b5 :: rest)

theorem getAnyLoop_bad (tbl : PropTable) (oldOf : UInt8 → List PropOcc → Bytes) (n0 plen : Nat)
    (bad : Bytes) (hbad : BadProp tbl bad) (acc : List PropOcc) (fuel : Nat) (hf : 1 < fuel)
    (hc : n0 - bad.length < plen) :
    (getAnyLoop tbl oldOf n0 plen fuel { rest := bad, st := .ok } acc).1.Failed := by
  obtain ⟨fuel, rfl⟩ := Nat.exists_eq_add_one.mpr (Nat.zero_lt_of_lt hf)
  -- the identifier is read; then either no decoder is found for it, or the one found rejects the value
  have key : ∀ (id : UInt8) (rest : Bytes), bad = id :: rest →
      (propDec tbl oldOf id acc = none
        ∨ ∃ dec e, propDec tbl oldOf id acc = some dec ∧ rest ≠ [] ∧ dec rest = .err e) →
      (getAnyLoop tbl oldOf n0 plen (fuel + 1) { rest := bad, st := .ok } acc).1.Failed := by
    rintro id rest rfl h
    rw [getAnyLoop_succ, if_pos hc]
    simp only [get_u8, ne_eq, not_true_eq_false, if_false]
    rcases h with h | ⟨dec, e, h, hne, hd⟩
    · simp only [h]; exact getAnyLoop_failed _ _ _ _ _ _ _ ⟨_, rfl⟩ (by omega)
    · simp only [h, get_err_val dec _ _ e hne hd]; exact getAnyLoop_failed _ _ _ _ _ _ _ ⟨_, rfl⟩ (by omega)
  cases hbad with
  | unknownId id rest hl h26 h0b => exact key id rest rfl (.inl (by simp only [propDec, hl, h26, h0b, if_false]))
  | badBool id b rest hl hb0 hb1 =>
    exact key id (b :: rest) rfl (.inr ⟨decK (oldOf id acc) .bool, .badBool, by simp only [propDec, hl], by simp,
      by simp [decK, decBool, hb0, hb1, DecRes.map]⟩)
  | longVb id b1 b2 b3 b4 b5 rest hl h1 h2 h3 h4 =>
    have hd : ∀ old, decK old .vb (b1 :: b2 :: b3 :: b4 :: b5 :: rest) = .err .sizeExceeded := by
      intro old; simp [decK, decVb_long b1 b2 b3 b4 b5 rest h1 h2 h3 h4, DecRes.map]
    refine key id _ rfl (.inr ?_)
    rcases hl with hl | ⟨hl, rfl⟩
    · exact ⟨decK (oldOf id acc) .vb, _, by simp only [propDec, hl], by simp, hd _⟩
    · exact ⟨decK [] .vb, _, by simp only [propDec, hl]; rfl, by simp, hd _⟩

theorem getAny_bad (tbl : PropTable) (oldOf : UInt8 → List PropOcc → Bytes) (pre : List PropOcc) (bad suf : Bytes)
    (L : Nat) (hL : L < 268435456) (hok : ∀ o ∈ pre, PropOk tbl o)
    (hbin : ∀ p o post, pre = p ++ o :: post → BinFresh oldOf p o)
    (hreach : (pre.flatMap encOcc).length < L) (hbad : BadProp tbl bad) :
    (({ rest := encVb L ++ (pre.flatMap encOcc ++ (bad ++ suf)), st := .ok } : Buf).getAny tbl oldOf).1.Failed := by
  rw [getAny_len _ _ L hL]
  have hbl : 0 < bad.length := by cases hbad <;> simp
  rw [getAnyLoop_prefix tbl oldOf _ L pre [] (bad ++ suf) _ hok (by simpa using hbin) (Nat.le_refl _)
    (by simp only [List.length_append]; omega)
    (by have := occs_length_le pre; simp only [List.length_append]; omega)]
  have hbs : BadProp tbl (bad ++ suf) := by
    cases hbad with
    | unknownId id rest a b c => exact .unknownId id (rest ++ suf) a b c
    | badBool id b rest a c d => exact .badBool id b (rest ++ suf) a c d
    | longVb id b1 b2 b3 b4 b5 rest a c d e f => exact .longVb id b1 b2 b3 b4 b5 (rest ++ suf) a c d e f
  apply getAnyLoop_bad tbl oldOf _ L (bad ++ suf) hbs
  · have := occs_length_le pre
    simp only [List.length_append]; omega
  · simp only [List.length_append]; omega

/-- the decoder tables of the model (tied to the `propertyMap` literals of the code by `Tie.T1_*`) -/
def allTables : List PropTable :=
  [Connect.table, Connect.willTable, ConnAck.table, Publish.table, Ack.table, Subscribe.table, SubAck.table,
   Disconnect.table, Auth.table, []]

/-- proved the other way round: every identifier a table knows is one the specification defines, a `decide` over the
tables' fifty-odd entries and not over the 256 bytes -/
theorem undefined_id (id : UInt8) (h : Spec.propDef? id = none) :
    (id ≠ 0x26 ∧ id ≠ 0x0b) ∧ ∀ tbl ∈ allTables, tbl.lookup id = none := by
  have known : ∀ tbl ∈ allTables, ∀ p ∈ tbl, (Spec.propDef? p.1).isSome = true := by decide +kernel
  refine ⟨⟨fun e => ?_, fun e => ?_⟩, fun tbl ht => List.lookup_eq_none_iff.mpr fun p hp => bne_iff_ne.mpr fun e => ?_⟩
  · rw [e] at h; exact absurd h (by decide)
  · rw [e] at h; exact absurd h (by decide)
  · have := known tbl ht p hp
    rw [← e, h] at this; cases this

end Mq
