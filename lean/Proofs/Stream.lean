import Mq.Stream
import Proofs.Vbint
/-!
# Proofs.Stream — `io.ReadFull` over delivery scripts

The central fact: whatever the schedule (chunk sizes, zero-length reads, error with or after the
last bytes), `readFull r n` returns the first `n` bytes and leaves the rest, or — when fewer than
`n` bytes remain — returns them all with an error that depends only on how the stream ends. Of the
reader it changes the bytes left and the schedule left and nothing else; `readFull_eq` says all of this
in one equation, with some schedule `s` left, and that is the form in which the reads of `ReadPacket` are chained.
-/
namespace Mq

theorem chunk_le_want (r : Reader) (w : Nat) : r.chunk w ≤ w := Nat.le_trans (Nat.min_le_left _ _) (Nat.min_le_right _ _)
theorem chunk_le_data (r : Reader) (w : Nat) : r.chunk w ≤ r.data.length := Nat.min_le_right _ _

/-- a read takes a step of the schedule or, past its end, delivers a byte: the fuel of `readFull` -/
theorem read_progress (r : Reader) (want : Nat) (h0 : want ≠ 0) (hne : r.data ≠ []) :
    r.sched.tail.length + (want - r.chunk want) < r.sched.length + want := by
  cases hs : r.sched with
  | nil =>
    have hw := Nat.pos_of_ne_zero h0
    have : 0 < r.chunk want := by
      rw [Reader.chunk, hs]; exact Nat.lt_min.mpr ⟨Nat.lt_min.mpr ⟨hw, hw⟩, List.length_pos_iff.mpr hne⟩
    exact Nat.add_lt_add_left (Nat.sub_lt hw this) _
  | cons a t => exact Nat.add_lt_add_of_lt_of_le (Nat.lt_succ_self _) (Nat.sub_le _ _)

theorem read_of_ne_nil (r : Reader) (want : Nat) (h : r.data ≠ []) :
    r.read want = (r.data.take (r.chunk want),
      (if r.data.length ≤ r.chunk want ∧ r.eofWithData = true then some r.fail else none),
      { r with data := r.data.drop (r.chunk want), sched := r.sched.tail }) := by
  rw [Reader.read, if_neg h]; rfl

/-- the loop of `io.ReadFull` at any point of the request, `acc` having arrived -/
theorem readFullAux_eq : ∀ (fuel : Nat) (r : Reader) (want : Nat) (acc : Bytes), r.sched.length + want + 1 ≤ fuel →
    ∃ s, readFullAux fuel r want acc =
      if want ≤ r.data.length then (acc ++ r.data.take want, none, { r with data := r.data.drop want, sched := s })
      else (acc ++ r.data, some (shortErr r.fail (acc ++ r.data)), { r with data := [], sched := s })
  | 0, _, _, _, h => by omega
  | fuel + 1, r, want, acc, hf => by
    rw [readFullAux]
    by_cases h0 : want = 0
    · subst h0; exact ⟨r.sched, by simp⟩
    rw [if_neg h0]
    by_cases hne : r.data = []
    · -- nothing is left: the read fails
      obtain ⟨data, sched, eofWithData, fail⟩ := r
      subst hne
      refine ⟨sched, ?_⟩
      simp only [Reader.read, if_true, List.append_nil, List.length_nil, Nat.le_zero_eq, h0, if_false]
      cases fail <;> rfl
    have hc1 := chunk_le_want r want
    have hc2 := chunk_le_data r want
    rw [read_of_ne_nil r want hne]
    simp only [List.length_take, Nat.min_eq_left hc2]
    by_cases hge : want ≤ r.chunk want
    · -- the request is served
      have hk : r.chunk want = want := Nat.le_antisymm hc1 hge
      exact ⟨r.sched.tail, by rw [if_pos hge, hk, if_pos (hk ▸ hc2)]⟩
    rw [if_neg hge]
    by_cases herr : r.data.length ≤ r.chunk want ∧ r.eofWithData = true
    · -- the last bytes arrive together with the failure
      have hk : r.chunk want = r.data.length := Nat.le_antisymm hc2 herr.1
      have hw : ¬ want ≤ r.data.length := hk ▸ hge
      refine ⟨r.sched.tail, ?_⟩
      rw [if_pos herr, hk, List.take_length, List.drop_length, if_neg hw]
      cases r.fail <;> rfl
    · -- the rest of the request is read from the rest of the stream
      obtain ⟨s, ih⟩ := readFullAux_eq fuel { r with data := r.data.drop (r.chunk want), sched := r.sched.tail }
        (want - r.chunk want) (acc ++ r.data.take (r.chunk want))
        (Nat.le_of_lt_succ (Nat.lt_of_lt_of_le (Nat.succ_lt_succ (read_progress r want h0 hne)) hf))
      refine ⟨s, ?_⟩
      rw [if_neg herr]
      simp only [ih, List.length_drop, List.append_assoc, List.take_append_drop, ← List.take_add, List.drop_drop,
        Nat.add_sub_cancel' hc1]
      by_cases hw : want ≤ r.data.length
      · rw [if_pos hw, if_pos (Nat.sub_le_sub_right hw _)]
      · rw [if_neg hw, if_neg (by omega)]

theorem readFull_eq (r : Reader) (want : Nat) :
    ∃ s, readFull r want =
      if want ≤ r.data.length then (r.data.take want, none, { r with data := r.data.drop want, sched := s })
      else (r.data, some (shortErr r.fail r.data), { r with data := [], sched := s }) :=
  readFullAux_eq _ r want [] (Nat.le_refl _)

/-- a reader's own failure is passed on as it is: only `io.EOF` is turned into `io.ErrUnexpectedEOF` -/
theorem shortErr_is (fail : IOErr) (got : Bytes) (h : fail ≠ .eof) : (Err.io (shortErr fail got)).is fail = true := by
  cases fail with
  | eof => exact absurd rfl h
  | unexpectedEOF => rfl
  | custom t => simp [shortErr, Err.is]

/-- `io.ReadFull` as a function of the remaining bytes and of how the stream ends -/
def pureFull (data : Bytes) (fail : IOErr) (want : Nat) : Bytes × Option IOErr × Bytes :=
  if want ≤ data.length then (data.take want, none, data.drop want)
  else (data, some (shortErr fail data), [])

theorem readFull_pure (r : Reader) (want : Nat) :
    ((readFull r want).1, (readFull r want).2.1, (readFull r want).2.2.data) = pureFull r.data r.fail want
    ∧ (readFull r want).2.2.fail = r.fail ∧ (readFull r want).2.2.eofWithData = r.eofWithData := by
  obtain ⟨s, h⟩ := readFull_eq r want
  rw [h, pureFull]
  split <;> exact ⟨rfl, rfl, rfl⟩

end Mq
