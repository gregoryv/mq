import Mq.Packet
/-!
# Proofs.ApplyOcc — one step of a packet's `applyOcc`, for every occurrence, well-typed or not

For each packet type `T` a step leaves `T.nonProps` (the fields no property maps to) alone and appends `occPairs [o]` to
the user properties. Both are shown by pushing the getter through the `if`s of `T.applyOcc`: every branch gives the
same. Folds over occurrence lists are read off such step facts by `foldl_same` and `foldl_fusion`.

`T.nonProps` is a plain tuple, so that one equation speaks of all its fields; its users take the component they need by
position (`congrArg (·.2.1) …`, or all of them at once by `Prod.mk.injEq`), in the order the definition lists them.
-/
namespace Mq

theorem foldl_fusion {P α β : Type} (f : P → β → P) (h : α → β → α) (g : P → α) (l : List β)
    (step : ∀ o ∈ l, ∀ p, g (f p o) = h (g p) o) (p : P) : g (l.foldl f p) = l.foldl h (g p) := by
  induction l generalizing p with
  | nil => rfl
  | cons o t ih =>
    rw [List.foldl_cons, List.foldl_cons, ih (fun x hx => step x (List.mem_cons_of_mem _ hx)),
      step o List.mem_cons_self]

theorem foldl_same {P α β : Type} {f : P → β → P} {g : P → α} (h : ∀ p o, g (f p o) = g p)
    (l : List β) (p : P) : g (l.foldl f p) = g p := by
  induction l generalizing p with
  | nil => rfl
  | cons o t ih => rw [List.foldl_cons, ih, h]

theorem foldl_append_filterMap {α β : Type} (φ : β → Option α) (ps : List β) (l : List α) :
    ps.foldl (fun l o => l ++ [o].filterMap φ) l = l ++ ps.filterMap φ := by
  induction ps generalizing l with
  | nil => simp
  | cons o t ih => rw [List.foldl_cons, ih, List.append_assoc, ← List.filterMap_append]; rfl

theorem fold_filterMap {P α β : Type} {f : P → β → P} {g : P → List α} {φ : β → Option α}
    (h : ∀ p o, g (f p o) = g p ++ [o].filterMap φ) (ps : List β) (p : P) :
    g (ps.foldl f p) = g p ++ ps.filterMap φ :=
  (foldl_fusion f _ g ps (fun o _ p => h p o) p).trans (foldl_append_filterMap φ ps _)

theorem occPairs_single (o : PropOcc) :
    occPairs [o] = match o.val with | .pair k v => if o.id = 0x26 then [(k, v)] else [] | _ => [] := by
  obtain ⟨id, val⟩ := o
  cases val <;> simp only [occPairs, List.filterMap_cons, List.filterMap_nil]
  by_cases h : id = 0x26 <;> simp only [h, if_true, if_false]

theorem occPairs_step_le {l l' : UserProps} {o : PropOcc} (h : l' = l ++ occPairs [o]) : l'.length ≤ l.length + 1 := by
  rw [h, List.length_append]
  exact Nat.add_le_add_left (List.length_filterMap_le _ [o]) _

def ConnAck.nonProps (p : ConnAck) := (p.fixed, p.flags, p.reasonCode)

theorem ConnAck.applyOcc_nonProps (p : ConnAck) (o : PropOcc) :
    ConnAck.nonProps (ConnAck.applyOcc p o) = ConnAck.nonProps p := by
  unfold ConnAck.applyOcc
  cases o.val <;> simp only [apply_ite ConnAck.nonProps] <;> simp only [ConnAck.nonProps, ite_self]

theorem ConnAck.applyOcc_userProps (p : ConnAck) (o : PropOcc) :
    ConnAck.userProps (ConnAck.applyOcc p o) = ConnAck.userProps p ++ occPairs [o] := by
  rw [occPairs_single]; unfold ConnAck.applyOcc
  cases o.val <;> simp only [apply_ite ConnAck.userProps, apply_ite (ConnAck.userProps p ++ ·), ite_self,
    List.append_nil]

def Connect.nonProps (p : Connect) :=
  (p.fixed, p.will, p.willPayload, p.flags, p.protocolName, p.protocolVersion, p.keepAlive, p.clientID, p.username,
    p.password, p.willDelayInterval)

theorem Connect.applyOcc_nonProps (p : Connect) (o : PropOcc) :
    Connect.nonProps (Connect.applyOcc p o) = Connect.nonProps p := by
  unfold Connect.applyOcc
  cases o.val <;> simp only [apply_ite Connect.nonProps] <;> simp only [Connect.nonProps, ite_self]

theorem Connect.applyOcc_userProps (p : Connect) (o : PropOcc) :
    Connect.userProps (Connect.applyOcc p o) = Connect.userProps p ++ occPairs [o] := by
  rw [occPairs_single]; unfold Connect.applyOcc
  cases o.val <;> simp only [apply_ite Connect.userProps, apply_ite (Connect.userProps p ++ ·), ite_self,
    List.append_nil]

theorem Connect.fold_nonProps (ps : List PropOcc) (p : Connect) :
    let q := ps.foldl Connect.applyOcc p
    q.fixed = p.fixed ∧ q.will = p.will ∧ q.willPayload = p.willPayload ∧ q.flags = p.flags
      ∧ q.protocolName = p.protocolName ∧ q.protocolVersion = p.protocolVersion ∧ q.keepAlive = p.keepAlive
      ∧ q.clientID = p.clientID ∧ q.username = p.username ∧ q.password = p.password
      ∧ q.willDelayInterval = p.willDelayInterval := by
  simpa only [Connect.nonProps, Prod.mk.injEq] using foldl_same Connect.applyOcc_nonProps ps p

def Will.nonProps (p : UInt32 × Publish) :=
  (p.2.fixed, p.2.packetID, p.2.topicAlias, p.2.topicName, p.2.payload, p.2.subscriptionIDs)

theorem Will.applyOcc_nonProps (p : UInt32 × Publish) (o : PropOcc) :
    Will.nonProps (Connect.applyWillOcc p o) = Will.nonProps p := by
  unfold Connect.applyWillOcc
  cases o.val <;> simp only [apply_ite Will.nonProps] <;> simp only [Will.nonProps, ite_self]

theorem Will.applyOcc_userProps (s : UInt32 × Publish) (o : PropOcc) :
    (Connect.applyWillOcc s o).2.userProps = s.2.userProps ++ occPairs [o] := by
  rw [occPairs_single]; unfold Connect.applyWillOcc
  cases o.val <;> simp only [apply_ite (fun s : UInt32 × Publish => s.2.userProps), apply_ite (s.2.userProps ++ ·),
    ite_self, List.append_nil]

theorem Will.fold_nonProps (ps : List PropOcc) (s : UInt32 × Publish) :
    let t := ps.foldl Connect.applyWillOcc s
    t.2.fixed = s.2.fixed ∧ t.2.packetID = s.2.packetID ∧ t.2.topicAlias = s.2.topicAlias
      ∧ t.2.topicName = s.2.topicName ∧ t.2.payload = s.2.payload ∧ t.2.subscriptionIDs = s.2.subscriptionIDs := by
  simpa only [Will.nonProps, Prod.mk.injEq] using foldl_same Will.applyOcc_nonProps ps s

def Publish.nonProps (p : Publish) := (p.fixed, p.packetID, p.topicName, p.payload)

theorem Publish.applyOcc_nonProps (p : Publish) (o : PropOcc) :
    Publish.nonProps (Publish.applyOcc p o) = Publish.nonProps p := by
  unfold Publish.applyOcc
  cases o.val <;> simp only [apply_ite Publish.nonProps] <;> simp only [Publish.nonProps, ite_self]

theorem Publish.applyOcc_userProps (p : Publish) (o : PropOcc) :
    Publish.userProps (Publish.applyOcc p o) = Publish.userProps p ++ occPairs [o] := by
  rw [occPairs_single]; unfold Publish.applyOcc
  cases o.val <;> simp only [apply_ite Publish.userProps, apply_ite (Publish.userProps p ++ ·), ite_self,
    List.append_nil]

theorem Publish.applyOcc_subscriptionIDs (p : Publish) (o : PropOcc) :
    (p.applyOcc o).subscriptionIDs = p.subscriptionIDs ++ [o].filterMap fun o => match o.val with
      | .vb n => if o.id = 0x0b then some (UInt32.ofNat n) else none
      | _ => none := by
  obtain ⟨id, val⟩ := o
  unfold Publish.applyOcc
  cases val <;> simp only [apply_ite Publish.subscriptionIDs, ite_self, List.filterMap_cons,
    List.filterMap_nil, List.append_nil]
  by_cases h : id = 0x0b <;> simp only [h, if_true, if_false, List.append_nil]

def Ack.nonProps (p : Ack) := (p.fixed, p.packetID, p.reasonCode)

theorem Ack.applyOcc_nonProps (p : Ack) (o : PropOcc) : Ack.nonProps (Ack.applyOcc p o) = Ack.nonProps p := by
  unfold Ack.applyOcc
  cases o.val <;> simp only [apply_ite Ack.nonProps] <;> simp only [Ack.nonProps, ite_self]

theorem Ack.applyOcc_userProps (p : Ack) (o : PropOcc) :
    Ack.userProps (Ack.applyOcc p o) = Ack.userProps p ++ occPairs [o] := by
  rw [occPairs_single]; unfold Ack.applyOcc
  cases o.val <;> simp only [apply_ite Ack.userProps, apply_ite (Ack.userProps p ++ ·), ite_self, List.append_nil]

def SubAck.nonProps (p : SubAck) := (p.fixed, p.reasonCodes, p.packetID)

theorem SubAck.applyOcc_nonProps (p : SubAck) (o : PropOcc) : SubAck.nonProps (SubAck.applyOcc p o) = SubAck.nonProps p := by
  unfold SubAck.applyOcc
  cases o.val <;> simp only [apply_ite SubAck.nonProps] <;> simp only [SubAck.nonProps, ite_self]

theorem SubAck.applyOcc_userProps (p : SubAck) (o : PropOcc) :
    SubAck.userProps (SubAck.applyOcc p o) = SubAck.userProps p ++ occPairs [o] := by
  rw [occPairs_single]; unfold SubAck.applyOcc
  cases o.val <;> simp only [apply_ite SubAck.userProps, apply_ite (SubAck.userProps p ++ ·), ite_self, List.append_nil]

def Disconnect.nonProps (p : Disconnect) := (p.fixed, p.reasonCode)

theorem Disconnect.applyOcc_nonProps (p : Disconnect) (o : PropOcc) :
    Disconnect.nonProps (Disconnect.applyOcc p o) = Disconnect.nonProps p := by
  unfold Disconnect.applyOcc
  cases o.val <;> simp only [apply_ite Disconnect.nonProps] <;> simp only [Disconnect.nonProps, ite_self]

theorem Disconnect.applyOcc_userProps (p : Disconnect) (o : PropOcc) :
    Disconnect.userProps (Disconnect.applyOcc p o) = Disconnect.userProps p ++ occPairs [o] := by
  rw [occPairs_single]; unfold Disconnect.applyOcc
  cases o.val <;> simp only [apply_ite Disconnect.userProps, apply_ite (Disconnect.userProps p ++ ·), ite_self,
    List.append_nil]

def Auth.nonProps (p : Auth) := (p.fixed, p.reasonCode)

theorem Auth.applyOcc_nonProps (p : Auth) (o : PropOcc) : Auth.nonProps (Auth.applyOcc p o) = Auth.nonProps p := by
  unfold Auth.applyOcc
  cases o.val <;> simp only [apply_ite Auth.nonProps] <;> simp only [Auth.nonProps, ite_self]

theorem Auth.applyOcc_userProps (p : Auth) (o : PropOcc) :
    Auth.userProps (Auth.applyOcc p o) = Auth.userProps p ++ occPairs [o] := by
  rw [occPairs_single]; unfold Auth.applyOcc
  cases o.val <;> simp only [apply_ite Auth.userProps, apply_ite (Auth.userProps p ++ ·), ite_self, List.append_nil]

def Subscribe.nonProps (p : Subscribe) := (p.fixed, p.filters, p.packetID)

theorem Subscribe.applyOcc_nonProps (p : Subscribe) (o : PropOcc) :
    Subscribe.nonProps (Subscribe.applyOcc p o) = Subscribe.nonProps p := by
  unfold Subscribe.applyOcc
  cases o.val <;> simp only [apply_ite Subscribe.nonProps] <;> simp only [Subscribe.nonProps, ite_self]

theorem Subscribe.applyOcc_userProps (p : Subscribe) (o : PropOcc) :
    Subscribe.userProps (Subscribe.applyOcc p o) = Subscribe.userProps p ++ occPairs [o] := by
  rw [occPairs_single]; unfold Subscribe.applyOcc
  cases o.val <;> simp only [apply_ite Subscribe.userProps, apply_ite (Subscribe.userProps p ++ ·), ite_self,
    List.append_nil]

theorem Subscribe.applyOcc_subscriptionID (p : Subscribe) (o : PropOcc) :
    (p.applyOcc o).subscriptionID = match o.val with
      | .vb n => if o.id = 0x0b then some n else p.subscriptionID
      | _ => p.subscriptionID := by
  unfold Subscribe.applyOcc
  cases o.val <;> simp only [apply_ite Subscribe.subscriptionID, ite_self]

def Unsubscribe.nonProps (p : Unsubscribe) := (p.fixed, p.filters, p.packetID)

theorem Unsubscribe.applyOcc_nonProps (p : Unsubscribe) (o : PropOcc) :
    Unsubscribe.nonProps (Unsubscribe.applyOcc p o) = Unsubscribe.nonProps p := by
  unfold Unsubscribe.applyOcc
  cases o.val <;> simp only [apply_ite Unsubscribe.nonProps] <;> simp only [Unsubscribe.nonProps, ite_self]

theorem Unsubscribe.applyOcc_userProps (p : Unsubscribe) (o : PropOcc) :
    Unsubscribe.userProps (Unsubscribe.applyOcc p o) = Unsubscribe.userProps p ++ occPairs [o] := by
  rw [occPairs_single]; unfold Unsubscribe.applyOcc
  cases o.val <;> simp only [apply_ite Unsubscribe.userProps, apply_ite (Unsubscribe.userProps p ++ ·), List.append_nil]

end Mq
