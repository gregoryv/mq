import Proofs.EConnect
import Proofs.Fixed
/-!
# Proofs.Inject — the accessor view (with the first byte) determines the packet value

`view` lists every public accessor. Together with the first byte it determines every field of every
packet type, given the two relations a CONNECT keeps between its will message and itself
(`Connect.Canon`); both the packets of the domain and everything the decoder returns satisfy them.
-/
namespace Mq

/-- How a view gives up the fields: two views with the same names are equal exactly when their values are, entry by
entry, and every form of value determines what it was made from. A conjunction, so that `simp only [view_inj]` rewrites
with each part. -/
theorem view_inj :
    (∀ (k : String) (a b : VV) (v w : View), ((k, a) :: v = (k, b) :: w) = (a = b ∧ v = w))
    ∧ (∀ a b : UInt8, (VV.n a.toNat = .n b.toNat) = (a = b)) ∧ (∀ a b : UInt16, (VV.n a.toNat = .n b.toNat) = (a = b))
    ∧ (∀ a b : UInt32, (VV.n a.toNat = .n b.toNat) = (a = b)) ∧ (∀ a b : Int, (VV.i a = .i b) = (a = b))
    ∧ (∀ a b : Bool, (VV.b a = .b b) = (a = b)) ∧ (∀ a b : Bytes, (VV.s a = .s b) = (a = b))
    ∧ (∀ a b : UserProps, (VV.ups a = .ups b) = (a = b)) ∧ (∀ a b : List Nat, (VV.nats a = .nats b) = (a = b))
    ∧ (∀ a b : List Bytes, (VV.strs a = .strs b) = (a = b))
    ∧ (∀ a b : List (Bytes × UInt8), (VV.filters a = .filters b) = (a = b)) := by
  simp only [List.cons.injEq, Prod.mk.injEq, true_and, VV.n.injEq, VV.i.injEq, VV.b.injEq, VV.s.injEq, VV.ups.injEq,
    VV.nats.injEq, VV.strs.injEq, VV.filters.injEq, UInt8.toNat_inj, UInt16.toNat_inj, UInt32.toNat_inj, implies_true,
    and_self]

theorem TopicFilter.pair_inj : ∀ a b : TopicFilter, (a.filter, a.options) = (b.filter, b.options) → a = b
  | ⟨_, _⟩, ⟨_, _⟩, h => by cases h; rfl

theorem Subscribe.subscriptionIDInt_inj (p q : Subscribe) :
    p.subscriptionIDInt = q.subscriptionIDInt ↔ p.subscriptionID = q.subscriptionID := by
  unfold Subscribe.subscriptionIDInt
  cases p.subscriptionID <;> cases q.subscriptionID <;> simp only [Option.some.injEq, reduceCtorEq] <;> omega

theorem Publish.eq_of_view (p q : Publish) (hf : p.fixed = q.fixed) (hv : p.view = q.view) : p = q := by
  simp only [Publish.view, view_inj, and_true, List.map_inj_right fun _ _ => UInt32.toNat_inj.mp] at hv
  cases p; cases q
  simp only [] at hv hf
  simp only [hf, hv]

/-- type nibble aside, the first byte of a PUBLISH is what `Duplicate`, `QoS` and `Retain` read (`Publish.firstByte_eq`) -/
theorem Publish.fixed_of_view (p q : Publish) (hp : p.fixed &&& 0xf0 = 0x30) (hq : q.fixed &&& 0xf0 = 0x30)
    (hv : p.view = q.view) : p.fixed = q.fixed := by
  simp only [Publish.view, view_inj] at hv
  -- of the view's fourteen entries: Duplicate the third, QoS the eighth, Retain the tenth
  obtain ⟨-, -, h1, -, -, -, -, h2, -, h3, -⟩ := hv
  rw [← p.firstByte_eq hp, ← q.firstByte_eq hq]
  simp only [Publish.abs, Spec.SPacket.firstByte, h1, h2, h3]

/-- of model CONNECTs: the relations between the packet and its will message that the view does not show
(`Spec.SPacket.Canonical` is unrelated: it is about the packet identifier of abstract QoS 0 PUBLISHes) -/
def Connect.Canon (p : Connect) : Prop :=
  (∀ w, p.will = some w → p.willPayload = w.payload ∧ w.fixed &&& 0xf0 = 0x30) ∧ (p.will = none → p.willPayload = [])

theorem Connect.eq_of_view (p q : Connect) (hf : p.fixed = q.fixed) (hv : p.view = q.view) (hp : p.Canon) (hq : q.Canon) :
    p = q := by
  simp only [Connect.view, List.cons_append, List.nil_append, view_inj] at hv
  have hwill : p.will = q.will ∧ p.willPayload = q.willPayload := by
    -- of the view's twenty entries this needs "Will" (is there one) and the will's own view, the last
    obtain ⟨-, -, -, -, -, -, -, -, -, -, -, -, -, -, -, -, -, a18, -, aw⟩ := hv
    cases hpw : p.will with
    | none =>
      cases hqw : q.will with
      | none => exact ⟨rfl, by rw [hp.2 hpw, hq.2 hqw]⟩
      | some w => simp [hpw, hqw] at a18
    | some w =>
      cases hqw : q.will with
      | none => simp [hpw, hqw] at a18
      | some w' =>
        simp only [hpw, hqw] at aw
        have hvw : w.view = w'.view :=
          (List.map_inj_right (f := fun kv : String × VV => ("Will." ++ kv.1, kv.2)) fun a b h =>
            Prod.ext ((String.append_right_inj _).mp (Prod.mk.inj h).1) (Prod.mk.inj h).2).mp aw
        obtain rfl : w = w' := Publish.eq_of_view w w' (Publish.fixed_of_view w w' (hp.1 w hpw).2 (hq.1 w' hqw).2 hvw) hvw
        exact ⟨rfl, by rw [(hp.1 w hpw).1, (hq.1 w hqw).1]⟩
  cases p; cases q
  simp only [] at hv hf hwill
  simp only [hf, hv, hwill]

def Packet.Canon : Packet → Prop
  | .connect p => p.Canon
  | _ => True

/-- `kind` numbers the constructors in the order of their declaration -/
theorem Packet.kind_eq_ctorIdx (p : Packet) : p.kind = p.ctorIdx := by cases p <;> rfl

theorem Packet.eq_of_view (p q : Packet) (hk : p.kind = q.kind) (hf : p.fixed = q.fixed) (hv : p.view = q.view)
    (hp : p.Canon) (hq : q.Canon) (hu : p.kind ≠ 0) : p = q := by
  -- `q` is built by the constructor of `p` (`Packet.<constructor>.elim`: by the constructor's number), sixteen cases
  have hc : q.ctorIdx = p.kind := by rw [hk, q.kind_eq_ctorIdx]
  revert hf hv hq
  cases p
  case undefined => exact absurd rfl hu
  case connect a => exact Packet.connect.elim q hc fun b hf hv hq => congrArg _ (Connect.eq_of_view a b hf hv hp hq)
  case publish a => exact Packet.publish.elim q hc fun b hf hv _ => congrArg _ (Publish.eq_of_view a b hf hv)
  case' connack a => refine Packet.connack.elim q hc fun b hf hv _ => ?_
  case' puback a => refine Packet.puback.elim q hc fun b hf hv _ => ?_
  case' pubrec a => refine Packet.pubrec.elim q hc fun b hf hv _ => ?_
  case' pubrel a => refine Packet.pubrel.elim q hc fun b hf hv _ => ?_
  case' pubcomp a => refine Packet.pubcomp.elim q hc fun b hf hv _ => ?_
  case' subscribe a => refine Packet.subscribe.elim q hc fun b hf hv _ => ?_
  case' suback a => refine Packet.suback.elim q hc fun b hf hv _ => ?_
  case' unsubscribe a => refine Packet.unsubscribe.elim q hc fun b hf hv _ => ?_
  case' unsuback a => refine Packet.unsuback.elim q hc fun b hf hv _ => ?_
  case' pingreq a => refine Packet.pingreq.elim q hc fun b hf hv _ => ?_
  case' pingresp a => refine Packet.pingresp.elim q hc fun b hf hv _ => ?_
  case' disconnect a => refine Packet.disconnect.elim q hc fun b hf hv _ => ?_
  case' auth a => refine Packet.auth.elim q hc fun b hf hv _ => ?_
  -- these types: the view lists every field under an injective image
  all_goals
    cases a; cases b
    simp only [Packet.view, Packet.fixed, ConnAck.view, Ack.view, Subscribe.view, SubAck.view, Unsubscribe.view, Ping.view,
      Disconnect.view, Auth.view, view_inj, and_true, Subscribe.subscriptionIDInt_inj,
      List.map_inj_right TopicFilter.pair_inj] at hv hf
    simp only [hf, hv]

theorem Connect.Reach.canon {c : Connect} (h : c.Reach) : c.Canon :=
  ⟨fun w hw => have ⟨hr, _, _, hpay⟩ := (h.willOK w hw).parts; ⟨hpay, hr.type⟩, fun hw => (h.noWill hw).1⟩

theorem Packet.canon_of_domain (p : Packet) (h : p.InDomain) : p.Canon := by
  cases p with
  | connect c => exact (Connect.inDomainW_iff.mp h).1.canon
  | _ => trivial

theorem Connect.Canon.congr {p q : Connect} (h : (q.will, q.willPayload) = (p.will, p.willPayload)) (hp : p.Canon) :
    q.Canon := by
  unfold Connect.Canon at *
  rwa [(Prod.mk.inj h).1, (Prod.mk.inj h).2]

theorem Connect.willStage_canon (x : Buf × Connect) (hp : x.2.Canon) : (Connect.willStage x).2.Canon := by
  unfold Connect.willStage Stage.when
  split
  · refine ⟨fun w hw => ?_, fun hw => nomatch hw⟩
    obtain rfl := Option.some.inj hw
    refine ⟨rfl, ?_⟩
    simp only []
    -- the will's first byte is that of `NewPublish()` after `SetQoS` and `SetRetain` (the fold of its properties leaves it
    -- alone), and neither setter touches the type nibble
    rw [(Will.fold_nonProps _ _).1]
    exact (toggle_and _ 1 0xf0 _ rfl).trans ((Publish.setQoS_and _ _ 0xf0 rfl).trans rfl)
  · exact hp

theorem Connect.unmarshal_canon (p : Connect) (d : Bytes) (hp : p.Canon) : (p.unmarshal d).1.Canon := by
  rw [Connect.unmarshal_split]
  have hx := Connect.Canon.congr (Stage.Keeps.seq Connect.preWill_keeps ({ rest := d }, p)) hp
  generalize Stage.seq Connect.preWill _ = x at hx ⊢
  exact .congr (congrArg Prod.snd (Stage.Keeps.seq Connect.postWill_keeps (Connect.willStage x)))
    (Connect.willStage_canon x hx)

theorem Packet.unmarshal_canon (p : Packet) (d : Bytes) (hp : p.Canon) : (p.unmarshal d).1.Canon := by
  cases p <;> simp only [Packet.unmarshal, Packet.Canon]
  exact Connect.unmarshal_canon _ _ hp

theorem Packet.dispatch_canon (b0 : UInt8) : (Packet.dispatch b0).Canon := by
  unfold Packet.dispatch
  split
  case h_1 => exact ⟨fun w hw => (by cases hw), fun _ => rfl⟩
  all_goals trivial

theorem frameOutcome_canon (b0 : UInt8) (body : Bytes) (q : Packet) (h : frameOutcome b0 body = .pkt q) : q.Canon := by
  rcases frameOutcome_pkt h with rfl | rfl
  · exact Packet.dispatch_canon b0
  · exact Packet.unmarshal_canon _ body (Packet.dispatch_canon b0)

end Mq
