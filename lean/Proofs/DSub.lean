import Proofs.DSimple
/-!
# Proofs.DSub — SUBSCRIBE and UNSUBSCRIBE: the filter loops on encoded filter lists, and with them the model's decoders on
every legal frame (`D_subscribe_L`, for the lenient legality `LegalL`, and `D_unsubscribe`)
-/
namespace Mq
open Spec (SPacket propVal userPropsOf vvOf propsLegal Form subIDLast)

theorem Subscribe.agree : tablesAgree 8 Subscribe.table = true := by decide
theorem Unsubscribe.agree : tablesAgree 10 ([] : PropTable) = true := by decide

def encFilter (f : Bytes × UInt8) : Bytes := encBin f.1 ++ [f.2]

theorem Subscribe.filterBody_reads (f : Bytes × UInt8) (hf : f.1.length < 65536) (rest : Bytes) :
    Subscribe.filterBody { rest := encFilter f ++ rest, st := .ok } = ({ rest := rest, st := .ok }, ⟨f.1, f.2⟩) := by
  simp only [Subscribe.filterBody, encFilter, List.append_assoc, get_bin f.1 hf _, List.cons_append, List.nil_append, get_u8]

theorem Subscribe.fold_subID (ps : List PropOcc) (p : Subscribe) (h : p.subscriptionID = none) :
    (ps.foldl Subscribe.applyOcc p).subscriptionID = subIDLast ps := by
  rw [subIDLast, ← h]
  exact foldl_fusion Subscribe.applyOcc _ Subscribe.subscriptionID ps (fun o _ p => Subscribe.applyOcc_subscriptionID p o) p

theorem Subscribe.runs : Packet.Runs 0x82 .subscribe Subscribe.stages { fixed := 0x82 } :=
  ⟨by decide, fun _ => by rw [← Subscribe.unmarshal_eq_run]; rfl⟩

theorem Subscribe.filters_parse (data : Bytes) (p : Subscribe) (f : Bytes × UInt8) (t : List (Bytes × UInt8))
    (hstr : ∀ g ∈ f :: t, g.1.length < 65536) (hfuel : ((f :: t).flatMap encFilter).length ≤ data.length) :
    Stage.Parses [Subscribe.filterStage data] p ((f :: t).flatMap encFilter)
      { p with filters := p.filters ++ (f :: t).map fun g => ⟨g.1, g.2⟩ } :=
  .loop Subscribe.filterLoop_eq (fun g => by simp [encFilter]) Subscribe.filters (fun (p : Subscribe) v => { p with filters := v }) data p f t
    (fun g hg rest => Subscribe.filterBody_reads g (hstr g hg) rest) hfuel

theorem D_subscribe_L (pid : UInt16) (ps : List PropOcc) (filters : List (Bytes × UInt8))
    (hl : (SPacket.subscribe pid ps filters).LegalL) :
    ∃ q, frameOutcome 0x82 (SPacket.subscribe pid ps filters).body = .pkt (.subscribe q)
      ∧ (Packet.subscribe q).view = (SPacket.subscribe pid ps filters).view := by
  obtain ⟨hleg, hlen⟩ := hl
  simp only [SPacket.legalL, Bool.and_eq_true, List.all_eq_true, SPacket.strOK, decide_eq_true_eq] at hleg
  obtain ⟨⟨hps, hne⟩, hstr⟩ := hleg
  have hb : (SPacket.subscribe pid ps filters).body = encU16 pid ++ (Spec.propSection ps ++ filters.flatMap encFilter) :=
    List.append_assoc _ _ _
  rw [hb] at hlen ⊢
  have hsl := section_fits ps (encU16 pid) (filters.flatMap encFilter) (by simpa [List.append_assoc] using hlen)
  cases filters with
  | nil => simp at hne
  | cons f t =>
    have hp : Stage.Parses (Subscribe.stages (encU16 pid ++ (Spec.propSection ps ++ (f :: t).flatMap encFilter)))
        { fixed := 0x82 } (encU16 pid ++ (Spec.propSection ps ++ (f :: t).flatMap encFilter)) _ :=
      .cons (Stage.Reads.u16 pid) <| .cons (Stage.Reads.props_legal 8 Subscribe.agree _ ps hps .noOld hsl) <|
      Subscribe.filters_parse _ _ f t hstr (by simp only [List.length_append]; omega)
    refine ⟨_, Subscribe.runs.accepts (by simp) hp, ?_⟩
    have hf := fun p => foldl_same Subscribe.applyOcc_nonProps ps p
    simp only [Subscribe.nonProps, Prod.mk.injEq] at hf
    simp only [Packet.view, Subscribe.view, SPacket.view, Subscribe.subscriptionIDInt, Subscribe.fold_subID,
      hf, fold_userProps Subscribe.applyOcc_userProps]
    simp only [List.nil_append, List.map_map, Function.comp_def, List.map_id']
    cases subIDLast ps <;> rfl

theorem Unsubscribe.runs : Packet.Runs 0xa2 .unsubscribe Unsubscribe.stages { fixed := 0xa2 } :=
  ⟨by decide, fun _ => by rw [← Unsubscribe.unmarshal_eq_run]; rfl⟩

theorem Unsubscribe.filters_parse (data : Bytes) (p : Unsubscribe) (f : Bytes) (t : List Bytes)
    (hstr : ∀ g ∈ f :: t, g.length < 65536) (hfuel : ((f :: t).flatMap encBin).length ≤ data.length) :
    Stage.Parses [Unsubscribe.filterStage data] p ((f :: t).flatMap encBin) { p with filters := p.filters ++ (f :: t).map id } :=
  .loop (mk := id) Unsubscribe.filterLoop_eq (fun g => by simp [encBin]) Unsubscribe.filters (fun (p : Unsubscribe) v => { p with filters := v }) data p f t
    (fun g hg rest => get_bin g (hstr g hg) rest) hfuel

theorem D_unsubscribe (pid : UInt16) (ps : List PropOcc) (filters : List Bytes)
    (hl : (SPacket.unsubscribe pid ps filters).Legal) :
    ∃ q, frameOutcome 0xa2 (SPacket.unsubscribe pid ps filters).body = .pkt (.unsubscribe q)
      ∧ (Packet.unsubscribe q).view = (SPacket.unsubscribe pid ps filters).view := by
  obtain ⟨hleg, hlen⟩ := hl
  simp only [SPacket.legal, Bool.and_eq_true, List.all_eq_true, SPacket.strOK, decide_eq_true_eq] at hleg
  obtain ⟨⟨hps, hne⟩, hstr⟩ := hleg
  have hb : (SPacket.unsubscribe pid ps filters).body = encU16 pid ++ (Spec.propSection ps ++ filters.flatMap encBin) :=
    List.append_assoc _ _ _
  rw [hb] at hlen ⊢
  have hsl := section_fits ps (encU16 pid) (filters.flatMap encBin) (by simpa [List.append_assoc] using hlen)
  cases filters with
  | nil => simp at hne
  | cons f t =>
    have hp : Stage.Parses (Unsubscribe.stages (encU16 pid ++ (Spec.propSection ps ++ (f :: t).flatMap encBin)))
        { fixed := 0xa2 } (encU16 pid ++ (Spec.propSection ps ++ (f :: t).flatMap encBin)) _ :=
      .cons (Stage.Reads.u16 pid) <| .cons (Stage.Reads.props_legal 10 Unsubscribe.agree _ ps hps .noOld hsl) <|
      Unsubscribe.filters_parse _ _ f t hstr (by simp only [List.length_append]; omega)
    refine ⟨_, Unsubscribe.runs.accepts (by simp) hp, ?_⟩
    have hf := fun p => foldl_same Unsubscribe.applyOcc_nonProps ps p
    simp only [Unsubscribe.nonProps, Prod.mk.injEq] at hf
    simp only [Packet.view, Unsubscribe.view, SPacket.view, hf, fold_userProps Unsubscribe.applyOcc_userProps]
    simp

end Mq
