import Proofs.DSub
import Proofs.DPublish
import Proofs.Inject
import Proofs.DConnectL
import Proofs.SpecParse
/-!
# Proofs.Codec — the two halves of the codec at the level of `Packet` / `SPacket`, and their composition

`Packet.E`: on the domain the encoder's output is the `unparse` of a legal abstract packet (per type: the
`E_*` theorems). `D_frame`: the decoder accepts the frame of every leniently legal abstract packet with the
specification's reading (per type: the `D_*` theorems). `C01_frame` composes them: the view and the first byte
determine the packet (Proofs.Inject), so what was written is what is read.
-/
namespace Spec.SPacket

theorem legalL_of_legal (sp : SPacket) (h : sp.legal = true) : sp.legalL = true := by
  cases sp <;> try exact h
  · simp only [legal, legalL, Bool.and_eq_true, List.all_eq_true] at h ⊢
    exact ⟨h.1, fun f hf => (h.2 f hf).1.1.1⟩
  · simp only [legal, legalL, Bool.and_eq_true] at h ⊢
    exact h.1

theorem Legal.lenient {sp : SPacket} (h : sp.Legal) : sp.LegalL := ⟨legalL_of_legal sp h.1, h.2⟩

end Spec.SPacket

namespace Mq
open Spec (SPacket)

theorem mkFrame_eq (b0 : UInt8) (body : Bytes) : Spec.mkFrame b0 body = frameBytes b0 body := rfl

def Packet.abs : Packet → Option SPacket
  | .undefined _ => none
  | .connect p => some p.abs
  | .connack p => some p.abs
  | .publish p => some p.abs
  | .puback p => some (Ack.abs 4 p) | .pubrec p => some (Ack.abs 5 p)
  | .pubrel p => some (Ack.abs 6 p) | .pubcomp p => some (Ack.abs 7 p)
  | .subscribe p => some p.abs
  | .suback p => some (SubAck.abs 9 p) | .unsuback p => some (SubAck.abs 11 p)
  | .unsubscribe p => some p.abs
  | .pingreq _ => some (.ping 12) | .pingresp _ => some (.ping 13)
  | .disconnect p => some p.abs
  | .auth p => some p.abs

theorem D_frame (sp : SPacket) (h : sp.LegalL) :
    ∃ q, frameOutcome sp.firstByte sp.body = .pkt q ∧ q.kind = sp.kind ∧ q.view = sp.view := by
  cases sp with
  | connect cs ka ps cid will user pass =>
    obtain ⟨q, h1, h2⟩ := D_connect cs ka ps cid will user pass h; exact ⟨_, h1, rfl, h2⟩
  | connack s r ps => obtain ⟨q, h1, h2⟩ := D_connack s r ps h; exact ⟨_, h1, rfl, h2⟩
  | publish d q r t pid ps pl => obtain ⟨x, h1, h2⟩ := D_publish d q r t pid ps pl h; exact ⟨_, h1, rfl, h2⟩
  | ack k pid f r ps => exact D_ack k pid f r ps h
  | subscribe pid ps fs => obtain ⟨q, h1, h2⟩ := D_subscribe_L pid ps fs h; exact ⟨_, h1, rfl, h2⟩
  | suback k pid ps cs => exact D_suback_L k pid ps cs h
  | unsubscribe pid ps fs => obtain ⟨q, h1, h2⟩ := D_unsubscribe pid ps fs h; exact ⟨_, h1, rfl, h2⟩
  | ping k => exact D_ping k h
  | disconnect f r ps => obtain ⟨q, h1, h2⟩ := D_disconnect f r ps h; exact ⟨_, h1, rfl, h2⟩
  | auth f r ps => obtain ⟨q, h1, h2⟩ := D_auth f r ps h; exact ⟨_, h1, rfl, h2⟩

theorem Packet.encode_connect {q : Connect} {bs : Bytes} : (Packet.connect q).encode = .bytes bs ↔ q.encode? = some bs := by
  rw [Packet.encode]
  cases q.encode? <;> simp only [Packet.Enc.bytes.injEq, Option.some.injEq, reduceCtorEq]

theorem Packet.E (p : Packet) (h : p.InDomain) (bs : Bytes) (he : p.encode = .bytes bs) :
    ∃ sp : SPacket, p.abs = some sp ∧ sp.Legal ∧ sp.unparse = bs ∧ sp.kind = p.kind ∧ sp.view = p.view
      ∧ sp.firstByte = p.fixed := by
  cases p with
  | undefined q => exact h.elim
  | connect q => exact ⟨_, rfl, E_connect q h bs (Packet.encode_connect.mp he)⟩
  | connack q => cases he; exact ⟨_, rfl, E_connack q h⟩
  | publish q => cases he; exact ⟨_, rfl, E_publish q h⟩
  | puback q | pubrec q | pubrel q | pubcomp q => cases he; exact ⟨_, rfl, E_ack _ q h⟩
  | subscribe q => cases he; exact ⟨_, rfl, E_subscribe q h⟩
  | suback q | unsuback q => cases he; exact ⟨_, rfl, E_suback _ q h⟩
  | unsubscribe q => cases he; exact ⟨_, rfl, E_unsubscribe q h⟩
  | pingreq q | pingresp q => cases he; exact ⟨_, rfl, E_ping _ q h⟩
  | disconnect q => cases he; exact ⟨_, rfl, E_disconnect q h⟩
  | auth q => cases he; exact ⟨_, rfl, E_auth q h⟩

/-- CONNECT apart: its relaxation (any protocol name and version) has no abstract packet; `C01_frame_connect` handles it
by substitution -/
theorem Packet.E_L (p : Packet) (h : p.InDomainL) (hc : p.kind ≠ 1) (bs : Bytes) (he : p.encode = .bytes bs) :
    ∃ sp : SPacket, p.abs = some sp ∧ sp.LegalL ∧ sp.unparse = bs ∧ sp.kind = p.kind ∧ sp.view = p.view
      ∧ sp.firstByte = p.fixed := by
  have strict (h' : p.InDomain) : ∃ sp : SPacket, p.abs = some sp ∧ sp.LegalL ∧ sp.unparse = bs ∧ sp.kind = p.kind
      ∧ sp.view = p.view ∧ sp.firstByte = p.fixed :=
    (Packet.E p h' bs he).imp fun sp hs => ⟨hs.1, hs.2.1.lenient, hs.2.2⟩
  cases p with
  | connect q => exact absurd rfl hc
  | subscribe q =>
    cases he; obtain ⟨h1, h2, h3⟩ := E_subscribe_L q h; exact ⟨_, rfl, h1, h2, rfl, h3, h.1.symm⟩
  | suback q | unsuback q => cases he; exact ⟨_, rfl, E_suback_L _ q h⟩
  | _ => exact strict h

theorem abs_canonical (p : Packet) (h : p.InDomain) (sp : SPacket) (ha : p.abs = some sp) : sp.Canonical := by
  cases p with
  | publish q => cases ha; obtain ⟨_, _, hpid, _⟩ := h; exact hpid
  | _ => cases ha <;> trivial

theorem Packet.inDomainL_of_inDomain (p : Packet) (h : p.InDomain) : p.InDomainL := by
  cases p with
  | connect q =>
    -- named `MQTT`/5, the packet is its own twin; the twin's bound has slack 4
    obtain ⟨hr, ⟨hn, hv⟩, hd, hlen⟩ := Connect.inDomainW_iff.mp h
    have hq : q.setNV Connect.mqtt5 5 = q := by cases q; cases hn; cases hv; rfl
    have h4 : q.InDomainW 4 := Connect.inDomainW_iff.mpr ⟨hr, ⟨hn, hv⟩, hd, fun b hb => Nat.lt_add_right 4 (hlen b hb)⟩
    exact ⟨hr.protocolName, hq.symm ▸ h4, hlen⟩
  | subscribe q =>
    obtain ⟨hfix, hsub, hu, hne, hfs, hlen⟩ := h
    exact ⟨hfix, hsub, hu, hne, fun x hx => (hfs x hx).1, hlen⟩
  | suback q | unsuback q => obtain ⟨hk, hfix, hr, hu, -, hlen⟩ := h; exact ⟨hk, hfix, hr, hu, hlen⟩
  | _ => exact h

theorem kind_ne_zero_of_domain (p : Packet) (h : p.InDomainL) : p.kind ≠ 0 := by
  cases p with
  | undefined q => exact h.elim
  | _ => exact Nat.succ_ne_zero _

theorem Packet.canon_of_kind (p : Packet) (h : p.kind ≠ 1) : p.Canon := by
  cases p with
  | connect q => exact absurd rfl h
  | _ => trivial

theorem roundtrip_of_spec (p : Packet) (sp : SPacket) (hkind : sp.kind = p.kind) (hview : sp.view = p.view)
    (hfb : sp.firstByte = p.fixed)
    (hD : ∃ q, frameOutcome sp.firstByte sp.body = .pkt q ∧ q.kind = sp.kind ∧ q.view = sp.view)
    (hc : p.Canon) (hne : p.kind ≠ 0) : frameOutcome p.fixed sp.body = .pkt p := by
  obtain ⟨q, hq, hk, hv⟩ := hD
  obtain ⟨hnib, hfix⟩ := frameOutcome_kind_fixed hq
  have hqf : q.fixed = p.fixed := (hfix (by rw [← hnib, hk, hkind]; exact hne)).trans hfb
  have hqp : q = p :=
    (Packet.eq_of_view p q (by rw [hk, hkind]) hqf.symm (by rw [hv, hview]) hc
      (frameOutcome_canon _ _ q hq) hne).symm
  subst hqp
  rw [← hfb]; exact hq

/-- on a non-empty body a first byte 0x10 hands the frame to CONNECT's decoder, run on the zero value -/
theorem frameOutcome_connect {body : Bytes} (hne : body.length ≠ 0) {c : Connect} :
    frameOutcome 0x10 body = .pkt (.connect c) ↔ ({ fixed := 0x10 } : Connect).unmarshal body = (c, .ok) := by
  have hd : (Packet.dispatch 0x10).unmarshal body
      = (.connect (({ fixed := 0x10 } : Connect).unmarshal body).1, (({ fixed := 0x10 } : Connect).unmarshal body).2) := rfl
  rw [frameOutcome_eq_pkt hne, hd, Prod.mk.injEq, Packet.connect.injEq, Prod.ext_iff]

/-- the decoder stores protocol name and version and never looks at them again (`Connect.unmarshal_subst`): on a body
with another name and version the outcome is the same packet with these two -/
theorem frameOutcome_connect_subst (c : Connect) (n : Bytes) (hn : n.length < 65536) (v : UInt8) (t : Bytes)
    (h : frameOutcome 0x10 (encBin Connect.mqtt5 ++ 5 :: t) = .pkt (.connect c)) :
    frameOutcome 0x10 (encBin n ++ v :: t) = .pkt (.connect (c.setNV n v)) := by
  have hne (n : Bytes) (v : UInt8) : (encBin n ++ v :: t).length ≠ 0 := Nat.succ_ne_zero _
  rw [frameOutcome_connect (hne _ _)] at h ⊢
  rw [Connect.unmarshal_subst _ rfl n hn v t, h]

/-- a CONNECT named `MQTT`/5 goes the ordinary route: E, D, injectivity of the view — with slack 4 on the length, which
`D_connect_core` allows and the twin in `C01_frame_connect` needs -/
theorem C01_frame_twin (q : Connect) (h : q.InDomainW 4) (body : Bytes) (hb : q.body? = some body) :
    frameOutcome 0x10 body = .pkt (.connect q) := by
  obtain ⟨⟨hleg, hl4⟩, -, hview, hb'⟩ := E_connect_core 4 q h _ (congrArg (Option.map _) hb)
  obtain rfl : q.abs.body = body := Option.some.inj (hb'.symm.trans hb)
  obtain ⟨x, h1, h2⟩ := D_connect_core _ _ _ _ _ _ _ hleg hl4
  exact h.1 ▸ roundtrip_of_spec (.connect q) q.abs rfl hview h.1.symm ⟨_, h1, rfl, h2⟩ (Connect.inDomainW_iff.mp h).1.canon
    (Nat.succ_ne_zero _)

/-- CONNECT with any protocol name and version: its `MQTT`/5 twin is in the domain proper and decodes to itself, so on
the packet's own body the decoder returns the twin with name and version put back: the packet -/
theorem C01_frame_connect (q : Connect) (h : q.InDomainL) (bs : Bytes) (he : (Packet.connect q).encode = .bytes bs) :
    ∃ body, bs = frameBytes q.fixed body ∧ body.length < 268435456
      ∧ frameOutcome q.fixed body = .pkt (.connect q) := by
  obtain ⟨hname, hdom, hlen⟩ := h
  obtain ⟨body, hbody, rfl⟩ := Option.map_eq_some_iff.mp (Packet.encode_connect.mp he)
  obtain ⟨t, rfl, hb0⟩ := Connect.body?_split q body hbody
  refine ⟨_, rfl, hlen _ hbody, ?_⟩
  rw [show q.fixed = 0x10 from hdom.1]
  exact q.setNV_self ▸ frameOutcome_connect_subst _ q.protocolName hname q.protocolVersion t (C01_frame_twin _ hdom _ hb0)

theorem C01_frame (p : Packet) (h : p.InDomainL) (bs : Bytes) (he : p.encode = .bytes bs) :
    ∃ body, bs = frameBytes p.fixed body ∧ body.length < 268435456 ∧ frameOutcome p.fixed body = .pkt p := by
  by_cases hc : p.kind = 1
  · obtain ⟨q, rfl⟩ : ∃ q, p = .connect q := Packet.connect.elim p (p.kind_eq_ctorIdx ▸ hc) fun q => ⟨q, rfl⟩
    exact C01_frame_connect q h bs he
  · obtain ⟨sp, -, hl, hun, hkind, hview, hfb⟩ := Packet.E_L p h hc bs he
    exact ⟨sp.body, by rw [← hun, ← hfb]; rfl, hl.2,
      roundtrip_of_spec p sp hkind hview hfb (D_frame sp hl) (p.canon_of_kind hc) (kind_ne_zero_of_domain p h)⟩

end Mq
