import Proofs.SpecBridge
import Proofs.Stages
/-!
# Proofs.Reads — a decoder stage on the encoding of its fields

`Reads`: on the encoding of its fields, followed by anything, the stage consumes exactly those bytes. `Parses`: a
list of stages started on the whole data ends with the status ok; it is what acceptance of a frame body comes to,
and is built stage by stage from `Reads` facts; the last stage may take whatever is left (the raw payload). The same
`Reads` facts carry a rejection proof past the stages in front of the one that fails (`Proofs.Cut`).
-/
namespace Mq
open Spec (propSection)

theorem LoopEq.round {β γ : Type} {body : Buf → Buf × β} {loop : Nat → Buf → List β → Buf × List β}
    (hs : LoopEq body loop) {enc : γ → Bytes} {mk : γ → β} (x : γ)
    (hread : ∀ rest, body { rest := enc x ++ rest, st := .ok } = ({ rest := rest, st := .ok }, mk x))
    (rest : Bytes) (acc : List β) (fuel : Nat) :
    loop (fuel + 1) { rest := enc x ++ rest, st := .ok } acc
      = if rest = [] then ({ rest := [], st := .ok }, acc ++ [mk x])
        else loop fuel { rest := rest, st := .ok } (acc ++ [mk x]) := by
  rw [hs, hread rest]
  by_cases h : rest = []
  · subst h; rfl
  · simp only [ne_eq, not_true_eq_false, if_false, h]

theorem LoopEq.enc {β γ : Type} {body : Buf → Buf × β} {loop : Nat → Buf → List β → Buf × List β}
    (hs : LoopEq body loop) {enc : γ → Bytes} {mk : γ → β} (hne : ∀ g, enc g ≠ []) :
    ∀ (t : List γ) (x : γ) (acc : List β) (fuel : Nat),
      (∀ g ∈ x :: t, ∀ rest, body { rest := enc g ++ rest, st := .ok } = ({ rest := rest, st := .ok }, mk g)) →
      t.length < fuel →
      loop fuel { rest := (x :: t).flatMap enc, st := .ok } acc = ({ rest := [], st := .ok }, acc ++ (x :: t).map mk) := by
  intro t
  induction t with
  | nil =>
    intro x acc fuel hr hf
    obtain ⟨fuel, rfl⟩ := Nat.exists_eq_add_one.mpr (Nat.zero_lt_of_lt hf)
    rw [List.flatMap_cons, hs.round x (hr x (by simp))]
    simp
  | cons g t ih =>
    intro x acc fuel hr hf
    obtain ⟨fuel, rfl⟩ := Nat.exists_eq_add_one.mpr (Nat.zero_lt_of_lt hf)
    rw [List.flatMap_cons, hs.round x (hr x (by simp)),
      if_neg (by simp only [List.flatMap_cons, List.append_eq_nil_iff, hne g, false_and, not_false_eq_true]),
      ih g _ fuel (fun y hy => hr y (by simp [hy])) (by simp at hf; omega)]
    simp

namespace Stage
variable {α : Type}

def Reads (s : Stage α) (p : α) (d : Bytes) (p' : α) : Prop :=
  ∀ rest, s ({ rest := d ++ rest, st := .ok }, p) = ({ rest := rest, st := .ok }, p')

/-- nothing is asked about the data left: `UnmarshalBinary` returns `b.err` whatever remains, and the stage of the SUBACK
reason codes does not move the cursor -/
def Parses (ss : List (Stage α)) (p : α) (d : Bytes) (p' : α) : Prop :=
  (seq ss ({ rest := d, st := .ok }, p)).1.st = .ok ∧ (seq ss ({ rest := d, st := .ok }, p)).2 = p'

theorem Parses.nil (p : α) (d : Bytes) : Parses [] p d p := ⟨rfl, rfl⟩

theorem Parses.cons {s : Stage α} {ss : List (Stage α)} {p p' p'' : α} {d e : Bytes} (h : s.Reads p d p')
    (hs : Parses ss p' e p'') : Parses (s :: ss) p (d ++ e) p'' := by
  unfold Parses; rw [Stage.seq_cons, h e]; exact hs

theorem Parses.of_reads {s : Stage α} {p p' : α} {d : Bytes} (h : s.Reads p d p') : Parses [s] p d p' := by
  have := h []; rw [List.append_nil] at this
  exact ⟨congrArg (·.1.st) this, congrArg (·.2) this⟩

theorem Parses.of_eq {s : Stage α} {p p' : α} {d r : Bytes}
    (h : s ({ rest := d, st := .ok }, p) = ({ rest := r, st := .ok }, p')) : Parses [s] p d p' :=
  ⟨congrArg (·.1.st) h, congrArg (·.2) h⟩

/-- A filter loop as a stage (SUBSCRIBE's, UNSUBSCRIBE's), on the encodings of a non-empty list. The fuel `data.length + 1`
is enough: every element takes at least a byte. -/
theorem Parses.loop {β γ : Type} {body : Buf → Buf × β} {loop : Nat → Buf → List β → Buf × List β} (hs : LoopEq body loop)
    {enc : γ → Bytes} {mk : γ → β} (hne : ∀ g, enc g ≠ []) (rd : α → List β) (wr : α → List β → α) (data : Bytes) (p : α)
    (x : γ) (t : List γ)
    (hread : ∀ g ∈ x :: t, ∀ rest, body { rest := enc g ++ rest, st := .ok } = ({ rest := rest, st := .ok }, mk g))
    (hfuel : ((x :: t).flatMap enc).length ≤ data.length) :
    Parses [fun s => ((loop (data.length + 1) s.1 (rd s.2)).1, wr s.2 (loop (data.length + 1) s.1 (rd s.2)).2)] p
      ((x :: t).flatMap enc) (wr p (rd p ++ (x :: t).map mk)) := by
  have hlen := length_le_flatMap enc (fun g => List.length_pos_iff.mpr (hne g)) (x :: t)
  have hl := hs.enc hne t x (rd p) (data.length + 1) hread (by simp only [List.length_cons] at hlen; omega)
  exact .of_eq (r := []) (by simp only [hl])

theorem Parses.when_pos {c : Buf × α → Prop} [∀ s, Decidable (c s)] {body : List (Stage α)} {p p' : α} {d : Bytes}
    (hc : c ({ rest := d, st := .ok }, p)) (h : Parses body p d p') : Parses [when c body] p d p' := by
  unfold Parses; rw [Stage.seq_cons, Stage.when_pos hc]; exact h

theorem Parses.when_neg {c : Buf × α → Prop} [∀ s, Decidable (c s)] {body : List (Stage α)} {p : α} {d : Bytes}
    (hc : ¬ c ({ rest := d, st := .ok }, p)) : Parses [when c body] p d p := by
  unfold Parses; rw [Stage.seq_cons, Stage.when_neg hc]; exact ⟨rfl, rfl⟩

theorem Parses.run {ss : List (Stage α)} {p p' : α} {d : Bytes} (h : Parses ss p d p') : run ss p d = (p', .ok) :=
  Prod.ext h.2 h.1

theorem Reads.seq_single {s : Stage α} {p p' : α} {d : Bytes} (h : s.Reads p d p') : (seq [s]).Reads p d p' := h

theorem Reads.when_pos {c : Buf × α → Prop} [∀ s, Decidable (c s)] {body : List (Stage α)} {p p' : α} {d : Bytes}
    (hc : ∀ b, c (b, p)) (h : (seq body).Reads p d p') : (when c body).Reads p d p' :=
  fun rest => (Stage.when_pos (hc _)).trans (h rest)

theorem Reads.when_neg {c : Buf × α → Prop} [∀ s, Decidable (c s)] {body : List (Stage α)} {p : α}
    (hc : ∀ b, ¬ c (b, p)) : (when c body).Reads p [] p :=
  fun _ => Stage.when_neg (hc _)

theorem Reads.get {β : Type} {dec : α → Dec β} {rd : α → β} {wr : α → β → α} {p : α} {d : Bytes} {v : β}
    (h : ∀ rest, ({ rest := d ++ rest, st := .ok } : Buf).get (dec p) (rd p) = ({ rest := rest, st := .ok }, v)) :
    (get dec rd wr).Reads p d (wr p v) := fun rest => by simp only [Stage.get, h]

theorem Reads.u8 {rd : α → UInt8} {wr : α → UInt8 → α} {p : α} (a : UInt8) :
    (Stage.get (fun _ => decU8) rd wr).Reads p [a] (wr p a) :=
  Reads.get fun rest => get_u8 a rest _

theorem Reads.u16 {rd : α → UInt16} {wr : α → UInt16 → α} {p : α} (v : UInt16) :
    (Stage.get (fun _ => decU16) rd wr).Reads p (encU16 v) (wr p v) :=
  Reads.get fun rest => get_u16 v rest _

/-- `hold` as in `decBin_enc_of`: the destination holds `rd p` -/
theorem Reads.bin {rd : α → Bytes} {wr : α → Bytes → α} {p : α} (v : Bytes) (hv : v.length < 65536)
    (hold : v = [] → rd p = []) : (Stage.get (fun p => decBin (rd p)) rd wr).Reads p (encBin v) (wr p v) :=
  Reads.get fun rest => get_bin_of _ v hv hold rest

theorem Reads.props_legal {tbl : PropTable} {oldOf : α → UInt8 → List PropOcc → Bytes} {apply : α → PropOcc → α} (k : Nat)
    (hagree : tablesAgree k tbl = true) (p : α) (ps : List PropOcc) (hl : Spec.propsLegal k ps = true)
    (hold : OldOk tbl (oldOf p)) (hlen : (propSection ps).length < 268435456) :
    (Stage.props tbl oldOf apply).Reads p (propSection ps) (ps.foldl apply p) :=
  fun rest => by
    simp only [Stage.props, getAny_spec k tbl hagree ps hl hold rest (Nat.lt_of_le_of_lt (section_len_le ps) hlen)]

/-- `if b.atEnd() { return }`: at the end of the data there are no properties -/
theorem Parses.props_atEnd {tbl : PropTable} {oldOf : α → UInt8 → List PropOcc → Bytes} {apply : α → PropOcc → α} (p : α) :
    Parses [Stage.props tbl oldOf apply] p [] p :=
  .of_eq (r := []) (by simp only [Stage.props, getAny_atEnd, List.foldl_nil])

end Stage
end Mq
