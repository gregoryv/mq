import Proofs.EPublish
import Proofs.ConnectBody
import Proofs.Reach

/-!
# Proofs.EConnect — E for CONNECT

Two property sections (the packet's and the will's, `will_section`); a flags byte that has to be the one the
specification computes from what is present (`abs_flags`: under `FlagsInv` the byte is determined by what the accessors
read, two tables over all bytes); optional fields that the model writes by flag and the specification by `Option`
(`flagOpt_*`; `E_connect_core` brings both bodies to the right-nested form of `connect_body_eq`). The domain is read by name,
through `Connect.inDomainW_iff` and `Connect.WillOK.parts` (Proofs.Reach).
-/
namespace Mq
open Spec (SPacket SWill propsLegal propBytes propSection propVal userPropsOf subIDsOf vvOf)
open Tie (encFields kinds connectFields willFields)

def Connect.occs (p : Connect) : List PropOcc := occsOf (connectFields p) ++ upOccs p.userProps
def Connect.willOccs (p : Connect) (w : Publish) : List PropOcc := occsOf (willFields p w) ++ upOccs w.userProps

def Connect.absWill (p : Connect) (w : Publish) : SWill :=
  { qos := p.willQoS, retain := has p.flags 32, props := p.willOccs w, topic := w.topicName, payload := p.willPayload }

/-- a credential is present exactly when its flag is set, the will when one is attached (`FlagsInv.will` ties that to
the flag). Flag masks as numerals, as in `Connect.FlagsInv` (Proofs.Setters): 2 clean start, 32 will retain (in
`absWill`), 64 password, 128 user name -/
def Connect.abs (p : Connect) : SPacket :=
  .connect (has p.flags 2) p.keepAlive p.occs p.clientID (p.will.map p.absWill)
    (if has p.flags 128 then some p.username else none) (if has p.flags 64 then some p.password else none)

theorem flags_some_table (f : UInt8) :
    has f 1 = false → has f 4 = true →
      (if has f 128 then (0x80 : UInt8) else 0) ||| (if has f 64 then (0x40 : UInt8) else 0)
        ||| ((if has f 32 then (0x20 : UInt8) else 0) ||| (((f &&& 24) >>> 3) <<< 3) ||| 0x04)
        ||| (if has f 2 then (0x02 : UInt8) else 0) = f :=
  UInt8.forall_of_fin f (by decide +kernel)

theorem flags_none_table (f : UInt8) :
    has f 1 = false → f &&& 0x3c = 0 →
      (if has f 128 then (0x80 : UInt8) else 0) ||| (if has f 64 then (0x40 : UInt8) else 0) ||| 0
        ||| (if has f 2 then (0x02 : UInt8) else 0) = f :=
  UInt8.forall_of_fin f (by decide +kernel)

/-! A credential is `some` in the abstract packet exactly when its flag is set: `if c then some u else none`. What the
specification does with such a field, in terms of the flag: -/

theorem flagOpt_isSome (c : Bool) (u : Bytes) : (if c = true then some u else none).isSome = c := by cases c <;> rfl

theorem flagOpt_field (c : Bool) (u : Bytes) : optField (if c = true then some u else none) = if c = true then encBin u else [] := by
  cases c <;> rfl

theorem flagOpt_strOK (c : Bool) {u : Bytes} (h : strOK u) :
    (match (if c = true then some u else none : Option Bytes) with | some u => SPacket.strOK u | none => true) = true := by
  cases c
  · rfl
  · exact strOK_spec h

/-- a credential whose flag is set exactly when it is non-empty (`FlagsInv.user`, `.pass`) reads the same through the flag
as directly -/
theorem flagOpt_getD (c : Bool) (u : Bytes) (h : c = decide (u ≠ [])) :
    (if c = true then some u else none : Option Bytes).getD [] = u := by
  subst h
  cases u <;> rfl

theorem Connect.abs_flags (p : Connect) (hi : p.FlagsInv) (hn : p.will = none → p.flags &&& 0x3c = 0) :
    Spec.SPacket.connectFlags (has p.flags 2) (p.will.map p.absWill)
      (if has p.flags 128 then some p.username else none) (if has p.flags 64 then some p.password else none) = p.flags := by
  unfold Spec.SPacket.connectFlags
  rw [flagOpt_isSome, flagOpt_isSome]
  cases hw : p.will with
  | none =>
    simpa using flags_none_table p.flags hi.reserved (hn hw)
  | some w =>
    have h4 : has p.flags 4 = true := by rw [hi.will, hw]; rfl
    simpa [Connect.absWill, Connect.willQoS_eq] using flags_some_table p.flags hi.reserved h4

theorem Connect.schema : schemaOK 1 Connect.table = true := by decide +kernel
theorem Connect.willSchema : schemaOK Spec.willK Connect.willTable = true := by decide +kernel

theorem Connect.will_section (p : Connect) (w : Publish) (hw : p.WillOK w) :
    p.willProps w = propBytes (p.willOccs w) ∧ propsLegal Spec.willK (p.willOccs w) = true
      ∧ userPropsOf (p.willOccs w) = w.userProps
      ∧ ∀ f ∈ willFields p w, propVal (p.willOccs w) f.1 f.2.dflt = vvOf f.2 := by
  have hr := hw.parts.1
  exact fields_section (willFields p w) w.userProps _ rfl Connect.willSchema
    (.num <| .num <| .num <| .str hr.contentType <| .str hr.responseTopic <| .str hr.correlationData .nil) hr.ups
    (Tie.M2_will p w)

theorem Connect.will_mirror (p : Connect) (w : Publish) (hi : p.FlagsInv) (hwill : p.will = some w) (hw : p.WillOK w) :
    has p.flags 32 = w.retain ∧ p.willQoS = w.qos := by
  obtain ⟨h1, h2⟩ := hi.mirror w hwill
  exact ⟨h1, h2.trans (if_pos (Nat.lt_succ_of_le (UInt8.le_iff_toNat_le.mp hw.parts.1.qos)))⟩

theorem Connect.will_view (p : Connect) (w : Publish) (hi : p.FlagsInv) (hwill : p.will = some w) (hw : p.WillOK w) :
    Spec.SPacket.publishView "Will." false (p.absWill w).qos (p.absWill w).retain (p.absWill w).topic 0
        (p.absWill w).props (p.absWill w).payload
      = w.view.map (fun kv => ("Will." ++ kv.1, kv.2))
    ∧ propVal (p.absWill w).props 0x18 (.n 0) = .n p.willDelayInterval.toNat := by
  obtain ⟨hm1, hm2⟩ := p.will_mirror w hi hwill hw
  obtain ⟨-, hleg, hups, hv⟩ := p.will_section w hw
  obtain ⟨-, ⟨hdup, hpid, halias, hsubs⟩, -, hpay⟩ := hw.parts
  simp only [willFields, forall_mem_cons₂, List.forall_mem_singleton, WVal.dflt, vvOf] at hv
  have noids := will_no_alias_subid _ hleg
  have v23 := propVal_absent 0x23 (.n 0) (p.willOccs w) fun o ho => (noids o ho).1
  have vsub := subIDsOf_absent (p.willOccs w) fun o ho => (noids o ho).2
  constructor
  · simp only [Spec.SPacket.publishView, Connect.absWill, Publish.view, List.map_cons, List.map_nil]
    simp only [v23, vsub, hups, hm1, hm2, hdup, hpid, halias, hsubs, hpay]
    -- not plain `simp`: it evaluates the fourteen `"Will." ++ name`, and the kernel evaluates them again
    simp only [hv, show UInt16.toNat 0 = 0 from rfl, ite_self, List.map_nil]
  · simp only [Connect.absWill, hv]

theorem E_connect_core (k : Nat) (p : Connect) (h : p.InDomainW k) (b : Bytes) (hb : p.encode? = some b) :
    (p.abs.legal = true ∧ p.abs.body.length < 268435456 + k) ∧ p.abs.unparse = b
      ∧ p.abs.view = (Packet.connect p).view ∧ p.body? = some p.abs.body := by
  obtain ⟨hd, ⟨hname, hver⟩, hd0, hlen⟩ := Connect.inDomainW_iff.mp h
  have hi := hd.inv
  have hr : FieldsInRange (connectFields p) :=
    .num <| .num <| .num <| .num <| .num <| .num <| .str hd.authMethod <| .str hd.authData .nil
  obtain ⟨hprops, hleg, hups, hv⟩ := fields_section (connectFields p) p.userProps p.occs rfl Connect.schema hr hd.ups (Tie.M2_connect p)
  have hflags := p.abs_flags hi (fun hw => (hd.noWill hw).2)
  -- both bodies as one right-nested concatenation; an optional field the specification writes from `some`/`none`, the
  -- model from the flag (`flagOpt_field`)
  have hbody : p.body? = some p.abs.body := by
    simp only [Connect.body?, Connect.payload?, Connect.abs, connect_body_eq, hflags, Connect.varHeader, hname, hver,
      hprops, Connect.fWillFlag, Connect.fUsername, Connect.fPassword, flagOpt_field]
    cases hw : p.will with
    | none =>
      have h4 : has p.flags 4 = false := by rw [hi.will, hw]; rfl
      simp only [h4, Option.map_none, Bool.false_eq_true, if_false, Option.map_some, Option.some.injEq, willBytes,
        propSection, List.append_assoc, List.cons_append, List.nil_append, List.append_nil]
      -- the two sides still differ where `simp` does not rewrite: `Connect.fUsername` for 128 inside a `Decidable` instance
      rfl
    | some w =>
      have h4 : has p.flags 4 = true := by rw [hi.will, hw]; rfl
      have hwp := (p.will_section w (hd.willOK w hw)).1
      simp only [h4, if_true, Option.map_some, Option.some.injEq, hwp, Connect.absWill, willBytes,
        propSection, List.append_assoc, List.cons_append, List.nil_append, List.append_nil]
      rfl
  have henc : p.encode? = some p.abs.unparse := by
    simp only [Connect.encode?, hbody, Option.map_some]
    exact congrArg some (unparse_of_body p.abs hd.fixed.symm rfl).symm
  rw [henc] at hb
  simp only [Option.some.injEq] at hb
  refine ⟨⟨?_, hlen _ hbody⟩, hb, ?_, hbody⟩
  · simp only [Connect.abs, SPacket.legal, hleg, Bool.true_and, Bool.and_eq_true]
    refine ⟨⟨⟨strOK_spec hd.clientID, ?_⟩, flagOpt_strOK _ hd.username⟩, flagOpt_strOK _ hd.password⟩
    cases hw : p.will with
    | none => simp
    | some w =>
      obtain ⟨_, hm2⟩ := p.will_mirror w hi hw (hd.willOK w hw)
      simp only [Option.map_some, Connect.absWill, (p.will_section w (hd.willOK w hw)).2.1, Bool.and_eq_true,
        decide_eq_true_eq, Bool.and_true]
      obtain ⟨hwr, -, rpl, hpay⟩ := (hd.willOK w hw).parts
      exact ⟨⟨hm2 ▸ hwr.qos, strOK_spec hwr.topicName⟩, hpay ▸ strOK_spec rpl⟩
  · simp only [connectFields, forall_mem_cons₂, List.forall_mem_singleton, WVal.dflt, vvOf] at hv
    simp only [Connect.abs, SPacket.view, Packet.view, Connect.view, hflags, hups, hv, flagOpt_getD _ _ hi.pass,
      flagOpt_getD _ _ hi.user, hname, hver, Connect.fCleanStart, Connect.mqtt5]
    -- what is left is the will: its delay interval among the entries, its own view behind them
    cases hw : p.will with
    | none => simp only [Option.map_none, hd0 hw]; rfl
    | some w =>
      obtain ⟨wv1, wv2⟩ := p.will_view w hi hw (hd.willOK w hw)
      simp only [Option.map_some, wv1, wv2]
      rfl

theorem E_connect (p : Connect) (h : p.InDomain) (b : Bytes) (hb : p.encode? = some b) :
    p.abs.Legal ∧ p.abs.unparse = b ∧ p.abs.kind = 1 ∧ p.abs.view = (Packet.connect p).view
    ∧ p.abs.firstByte = p.fixed := by
  obtain ⟨h1, h2, h3, _⟩ := E_connect_core 0 p h b hb
  exact ⟨h1, h2, rfl, h3, h.1.symm⟩

end Mq
