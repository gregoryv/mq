import Spec
import Proofs.PropLoop
/-!
# Proofs.SpecBridge — from the specification's legality predicates to the hypotheses of the
model's property-loop lemma

The file ends with what the view side of the acceptance and emission proofs needs of the specification's readings: an
identifier that does not occur reads as the default (`propVal_absent`, `subIDsOf_absent`), and a legal short form reads
as the full form (`formLegal_reading`).
-/
namespace Mq
open Spec (propDefs propDef? occLegal occOnce propsLegal PropDef Kind propVal subIDsOf)

/-! The specification's property section is the model's: `Spec.propBytes ps` is `ps.flatMap encOcc`, `Spec.propSection ps`
is `encPropSection ps`. A section is bounded by its own length, as a part of a body that fits; `getAny_spec` needs less,
that the length prefix can say the length of the properties. -/

theorem propSection_eq (ps : List PropOcc) : Spec.propSection ps = encPropSection ps := rfl

theorem propBytes_eq (ps : List PropOcc) : Spec.propBytes ps = ps.flatMap encOcc := rfl

theorem section_len_le (ps : List PropOcc) : (ps.flatMap encOcc).length ≤ (Spec.propSection ps).length := by
  rw [propSection_eq]; simp [encPropSection]

theorem section_fits (ps : List PropOcc) (pre suf : Bytes) (h : (pre ++ Spec.propSection ps ++ suf).length < 268435456) :
    (Spec.propSection ps).length < 268435456 := by
  simp only [List.length_append] at h
  omega

/-- the specification's table for packet kind `k` is covered by the model's decoder table `tbl`
(the `propertyMap` of the Go type, plus the two identifiers `getAny` handles inline) — a finite
check, decided by evaluation for each kind -/
def tablesAgree (k : Nat) (tbl : PropTable) : Bool :=
  propDefs.all fun d =>
    !d.allowed.contains k
    || tbl.lookup d.id == some d.ty
    || (tbl.lookup d.id == none && ((d.id == 0x26 && d.ty == .pair) || (d.id == 0x0b && d.ty == .vb)))

theorem inRange_of_valInRange (v : WVal) (h : Spec.valInRange v = true) : v.InRange := by
  cases v with
  | bin x => exact (of_decide_eq_true h : x.length < 65536)
  | pair k x => exact ((Bool.and_eq_true _ _).mp h).imp of_decide_eq_true of_decide_eq_true
  | vb n => exact (of_decide_eq_true h : n < 268435456)
  | _ => trivial

/-- what `occLegal` says: the identifier has an entry in the specification's table, which allows kind `k` and gives the wire
type of the value, and the value is in range -/
theorem occLegal_entry {k : Nat} {o : PropOcc} (h : occLegal k o = true) :
    ∃ d ∈ propDefs, propDef? o.id = some d ∧ d.id = o.id ∧ d.allowed.contains k = true ∧ d.ty = o.val.kind
      ∧ Spec.valInRange o.val = true := by
  unfold occLegal at h
  split at h
  next d hd =>
    simp only [Bool.and_eq_true, beq_iff_eq] at h
    exact ⟨d, List.mem_of_find?_eq_some hd, hd, by simpa using List.find?_some hd, h.1.1, h.1.2, h.2⟩
  next => cases h

theorem propOk_of_legal (k : Nat) (tbl : PropTable) (hagree : tablesAgree k tbl = true) (o : PropOcc)
    (h : occLegal k o = true) : PropOk tbl o := by
  obtain ⟨d, hmem, -, hid, hk, hty, hr⟩ := occLegal_entry h
  have ha := (List.all_eq_true.mp hagree) d hmem
  simp only [hk, Bool.not_true, Bool.false_or, Bool.or_eq_true, Bool.and_eq_true, beq_iff_eq, hid, hty] at ha
  exact ⟨inRange_of_valInRange _ hr, ha⟩

theorem foldl_ite_absent {α β : Type} {c : β → Prop} [DecidablePred c] {F : α → β → α} :
    ∀ (l : List β) (a : α), (∀ o ∈ l, ¬ c o) → l.foldl (fun cur o => if c o then F cur o else cur) a = a
  | [], _, _ => rfl
  | o :: t, a, h => by
    rw [List.foldl_cons, if_neg (h o List.mem_cons_self)]
    exact foldl_ite_absent t a fun x hx => h x (List.mem_cons_of_mem _ hx)

theorem lastBin_absent (init : UInt8 → Bytes) (id : UInt8) (acc : List PropOcc) (h : ∀ o ∈ acc, o.id ≠ id) :
    lastBin init id acc = init id :=
  foldl_ite_absent acc _ h

theorem bin_not_repeatable : ∀ d ∈ propDefs, d.ty = .bin → d.repeatable = [] := by decide

/-- the string entries of a table hold `[]` under `init`: one equation between two lists, which holds by evaluation for a
concrete table and a packet whose string fields are empty -/
abbrev BinsEmpty (tbl : PropTable) (init : UInt8 → Bytes) : Prop :=
  (tbl.filter (·.2 == .bin)).map (fun e => init e.1) = (tbl.filter (·.2 == .bin)).map fun _ => []

theorem binFresh_of_legal (k : Nat) (tbl : PropTable) (ps : List PropOcc) (hl : propsLegal k ps = true)
    (hok : ∀ o ∈ ps, PropOk tbl o) (init : UInt8 → Bytes) (hinit : BinsEmpty tbl init) :
    ∀ pre o post, ps = pre ++ o :: post → BinFresh (lastBin init) pre o := by
  intro pre o post hsplit hbin
  have hmem : o ∈ ps := by rw [hsplit]; simp
  have hempty : init o.id = [] := by
    rcases (hok o hmem).2 with h | ⟨_, ⟨_, h⟩ | ⟨_, h⟩⟩
    · obtain ⟨l₁, l₂, e, _⟩ := List.lookup_eq_some_iff.mp h
      rw [hbin] at e
      exact List.map_inj_left.mp hinit (o.id, .bin) (List.mem_filter.mpr ⟨e ▸ by simp [WVal.kind], rfl⟩)
    all_goals rw [hbin] at h; cases h
  rw [lastBin_absent init o.id pre ?_, hempty]
  intro o' ho' hid
  -- `o` is a bin occurrence, so its identifier is not repeatable; two occurrences contradict occOnce
  simp only [propsLegal, Bool.and_eq_true] at hl
  obtain ⟨d, hdm, hd, -, -, hty, -⟩ := occLegal_entry ((List.all_eq_true.mp hl.1) o hmem)
  have hon := (List.all_eq_true.mp hl.2) o hmem
  simp only [hd, bin_not_repeatable d hdm (by rw [hty, hbin]; rfl), List.contains_nil, Bool.false_or,
    decide_eq_true_eq] at hon
  have h1 : 0 < (pre.filter (·.id == o.id)).length :=
    List.length_pos_of_mem (List.mem_filter.mpr ⟨ho', beq_iff_eq.mpr hid⟩)
  simp only [hsplit, List.filter_append, List.filter_cons, beq_self_eq_true, if_true, List.length_append, List.length_cons] at hon
  omega

theorem legal_all (k : Nat) (ps : List PropOcc) (hl : propsLegal k ps = true) : ∀ o ∈ ps, occLegal k o = true := by
  simp only [propsLegal, Bool.and_eq_true] at hl
  exact fun o ho => (List.all_eq_true.mp hl.1) o ho

theorem propsOk_of_legal (k : Nat) (tbl : PropTable) (hagree : tablesAgree k tbl = true) (ps : List PropOcc)
    (hl : propsLegal k ps = true) : ∀ o ∈ ps, PropOk tbl o :=
  fun o ho => propOk_of_legal k tbl hagree o (legal_all k ps hl o ho)

/-- a will carries no topic alias and no subscription identifier: the specification allows neither among the will properties -/
theorem will_no_alias_subid (ps : List PropOcc) (hl : propsLegal Spec.willK ps = true) :
    ∀ o ∈ ps, o.id ≠ 0x23 ∧ o.id ≠ 0x0b := fun o ho =>
  have will_ids : ∀ d ∈ propDefs, d.allowed.contains Spec.willK = true → d.id ≠ 0x23 ∧ d.id ≠ 0x0b := by decide
  have ⟨d, hm, _, hid, hk, _⟩ := occLegal_entry (legal_all Spec.willK ps hl o ho)
  hid ▸ will_ids d hm hk

/-- a decoder passes the property loop either the strings the packet already holds (`lastBin`) or nothing (`noOld`) -/
inductive OldOk (tbl : PropTable) : (UInt8 → List PropOcc → Bytes) → Prop
  | lastBin {init : UInt8 → Bytes} : BinsEmpty tbl init → OldOk tbl (lastBin init)
  | noOld : OldOk tbl noOld

theorem OldOk.fresh {tbl : PropTable} {oldOf : UInt8 → List PropOcc → Bytes} (h : OldOk tbl oldOf) (k : Nat)
    (ps : List PropOcc) (hl : propsLegal k ps = true) (hok : ∀ o ∈ ps, PropOk tbl o) :
    ∀ pre o post, ps = pre ++ o :: post → BinFresh oldOf pre o := by
  cases h with
  | lastBin hinit => exact binFresh_of_legal k tbl ps hl hok _ hinit
  | noOld => exact fun _ _ _ _ _ => rfl

theorem getAny_spec (k : Nat) (tbl : PropTable) (hagree : tablesAgree k tbl = true) (ps : List PropOcc)
    (hl : propsLegal k ps = true) {oldOf : UInt8 → List PropOcc → Bytes} (hold : OldOk tbl oldOf) (suf : Bytes)
    (hlen : (ps.flatMap encOcc).length < 268435456) :
    ({ rest := Spec.propSection ps ++ suf, st := .ok } : Buf).getAny tbl oldOf = ({ rest := suf, st := .ok }, ps) := by
  rw [propSection_eq]
  exact getAny_enc tbl oldOf ps suf (propsOk_of_legal k tbl hagree ps hl)
    (hold.fresh k ps hl (propsOk_of_legal k tbl hagree ps hl)) hlen

theorem propVal_absent (id : UInt8) (d : VV) (ps : List PropOcc) (h : ∀ o ∈ ps, o.id ≠ id) : propVal ps id d = d :=
  foldl_ite_absent ps d h

theorem subIDsOf_absent (ps : List PropOcc) (h : ∀ o ∈ ps, o.id ≠ 0x0b) : subIDsOf ps = [] :=
  List.filterMap_eq_nil_iff.mpr fun o ho => by split <;> simp [h o ho]

/-- a legal short form loses nothing: the reading is that of the full form -/
theorem formLegal_reading {form : Spec.Form} {rc : UInt8} {occs : List PropOcc}
    (h : Spec.SPacket.formLegal form rc occs = true) :
    (if form = .full then occs else []) = occs ∧ (if form = .bare then 0 else rc.toNat) = rc.toNat := by
  cases form with
  | bare =>
    obtain ⟨h1, h2⟩ := (Bool.and_eq_true _ _).mp h
    exact ⟨(List.isEmpty_iff.mp h2).symm, congrArg UInt8.toNat (beq_iff_eq.mp h1).symm⟩
  | reason => exact ⟨(List.isEmpty_iff.mp h).symm, rfl⟩
  | full => exact ⟨rfl, rfl⟩

end Mq
