import Proofs.Fields
import Proofs.Reads
import Proofs.Outcome
/-!
# Proofs.DSimple — the model's decoders on every legal frame of CONNACK, the PUBACK family,
SUBACK/UNSUBACK, DISCONNECT, AUTH, PINGREQ/PINGRESP

Also here, for all types: `Packet.Runs`, how the first byte of a frame selects constructor and stage list, and with it how an
acceptance proof ends (`Packet.Runs.accepts`).
-/
namespace Mq
open Spec (SPacket Form propVal propsLegal userPropsOf vvOf)

theorem ConnAck.agree : tablesAgree 2 ConnAck.table = true := by decide

/-- How `ReadPacket` decodes a frame whose first byte is `b0`: the byte dispatches to `C p`, and `UnmarshalBinary` of that
packet is the stage list `ss body` run from `p`, the result again under `C`. One such fact per type that has a stage list,
`T.runs`, is all that acceptance (`Runs.accepts`) and rejection (`Runs.rejects`, in `Proofs.RejectPackets`) use of
`Packet.dispatch` and `Packet.unmarshal`. -/
structure Packet.Runs {α : Type} (b0 : UInt8) (C : α → Packet) (ss : Bytes → List (Stage α)) (p : α) : Prop where
  dispatch : Packet.dispatch b0 = C p
  unmarshal : ∀ body, (C p).unmarshal body = (C (Stage.run (ss body) p body).1, (Stage.run (ss body) p body).2)

/-- How an acceptance proof ends. `h`, built stage by stage from `Reads` facts: the list accepts the body. Then `ReadPacket`
returns what the stages leave. -/
theorem Packet.Runs.accepts {α : Type} {b0 : UInt8} {C : α → Packet} {ss : Bytes → List (Stage α)} {p p' : α} {body : Bytes}
    (hr : Packet.Runs b0 C ss p) (hne : body.length ≠ 0) (h : Stage.Parses (ss body) p body p') :
    frameOutcome b0 body = .pkt (C p') :=
  (frameOutcome_eq_pkt hne).mpr (by rw [hr.dispatch, hr.unmarshal, h.run])

theorem ConnAck.runs : Packet.Runs 0x20 .connack (fun _ => ConnAck.stages) { fixed := 0x20 } :=
  ⟨by decide, fun _ => by rw [← ConnAck.unmarshal_eq_run]; rfl⟩

theorem D_connack (sess : Bool) (reason : UInt8) (ps : List PropOcc)
    (hl : (SPacket.connack sess reason ps).Legal) :
    ∃ q, frameOutcome 0x20 (SPacket.connack sess reason ps).body = .pkt (.connack q)
      ∧ (Packet.connack q).view = (SPacket.connack sess reason ps).view := by
  obtain ⟨hleg, hlen⟩ := hl
  simp only [SPacket.legal] at hleg
  simp only [SPacket.body] at hlen ⊢
  have hsl := section_fits ps [if sess then 1 else 0, reason] [] (by simpa using hlen)
  have hp : Stage.Parses ConnAck.stages { fixed := 0x20 } _ _ :=
    .cons (d := [_]) (Stage.Reads.u8 (if sess = true then 1 else 0)) <| .cons (d := [reason]) (Stage.Reads.u8 reason) <|
    .of_reads (Stage.Reads.props_legal 2 ConnAck.agree _ ps hleg (.lastBin rfl) hsl)
  refine ⟨_, ConnAck.runs.accepts (by simp) hp, ?_⟩
  have hok := propsOk_of_legal 2 ConnAck.table ConnAck.agree ps hleg
  simp only [Packet.view, ConnAck.view, SPacket.view, ConnAck.sessionPresent]
  have h := ConnAck.fold_reads ps hok { fixed := 0x20, flags := if sess = true then 1 else 0, reasonCode := reason }
  simp only [Folded, readings, Tie.connackFields, List.map, vvOf, List.cons.injEq, Prod.mk.injEq, true_and, and_true, ConnAck.nonProps] at h
  -- the flags byte the specification writes for the session-present flag, read by `has` and as a number
  have hf : has (if sess = true then 1 else 0) 1 = sess
      ∧ (if sess = true then (1 : UInt8) else 0).toNat = if sess = true then 1 else 0 := by
    cases sess <;> exact ⟨rfl, rfl⟩
  simp only [h, hf]
  simp

theorem Ack.agree (k : Nat) (hk : k = 4 ∨ k = 5 ∨ k = 6 ∨ k = 7) : tablesAgree k Ack.table = true := by
  obtain rfl | rfl | rfl | rfl := hk <;> decide

theorem nibble_ofNat (k : Nat) (h : k < 16) : (UInt8.ofNat (k * 16) >>> 4).toNat = k := by
  rw [UInt8.toNat_shiftRight, UInt8.toNat_ofNat', Nat.mod_eq_of_lt (by omega : k * 16 < 2 ^ 8)]
  show (k * 16) >>> 4 = k
  rw [Nat.shiftRight_eq_div_pow]
  exact Nat.mul_div_cancel k (by decide : 0 < 16)

/-- PUBACK … PUBCOMP share the decoder of `Ack` under four constructors (SUBACK and UNSUBACK that of `SubAck` under two): the
constructor is the one the first byte selects, and all that is used of it is its kind and that its view is `Ack.view`. -/
theorem Ack.runs {b0 : UInt8} {k : Nat} (hb : (b0 >>> 4).toNat = k) (hk : k = 4 ∨ k = 5 ∨ k = 6 ∨ k = 7) :
    ∃ C : Ack → Packet, (∀ a, (C a).kind = k ∧ (C a).view = a.view) ∧ Packet.Runs b0 C Ack.stages { fixed := b0 } := by
  obtain rfl | rfl | rfl | rfl := hk
  · exact ⟨.puback, fun _ => ⟨rfl, rfl⟩, by unfold Packet.dispatch; rw [hb]; rfl, fun _ => by rw [← Ack.unmarshal_eq_run]; rfl⟩
  · exact ⟨.pubrec, fun _ => ⟨rfl, rfl⟩, by unfold Packet.dispatch; rw [hb]; rfl, fun _ => by rw [← Ack.unmarshal_eq_run]; rfl⟩
  · exact ⟨.pubrel, fun _ => ⟨rfl, rfl⟩, by unfold Packet.dispatch; rw [hb]; rfl, fun _ => by rw [← Ack.unmarshal_eq_run]; rfl⟩
  · exact ⟨.pubcomp, fun _ => ⟨rfl, rfl⟩, by unfold Packet.dispatch; rw [hb]; rfl, fun _ => by rw [← Ack.unmarshal_eq_run]; rfl⟩

theorem SubAck.runs {b0 : UInt8} {k : Nat} (hb : (b0 >>> 4).toNat = k) (hk : k = 9 ∨ k = 11) :
    ∃ C : SubAck → Packet, (∀ a, (C a).kind = k ∧ (C a).view = a.view)
      ∧ Packet.Runs b0 C (fun _ => SubAck.stages) { fixed := b0 } := by
  obtain rfl | rfl := hk
  · exact ⟨.suback, fun _ => ⟨rfl, rfl⟩, by unfold Packet.dispatch; rw [hb]; rfl, fun _ => by rw [← SubAck.unmarshal_eq_run]; rfl⟩
  · exact ⟨.unsuback, fun _ => ⟨rfl, rfl⟩, by unfold Packet.dispatch; rw [hb]; rfl, fun _ => by rw [← SubAck.unmarshal_eq_run]; rfl⟩

theorem disconnect_body_ne (form : Form) (reason : UInt8) (ps : List PropOcc) (h : form ≠ .bare) :
    (SPacket.disconnect form reason ps).body.length ≠ 0 := by
  cases form with
  | bare => exact absurd rfl h
  | reason | full => exact Nat.succ_ne_zero _

section ReasonProps
variable {α : Type} {rd : α → UInt8} {wr : α → UInt8 → α} {tbl : PropTable} {oldOf : α → UInt8 → List PropOcc → Bytes}
  {apply : α → PropOcc → α}

/-- The tail PUBACK … PUBCOMP, DISCONNECT and AUTH share: a reason code, then a property section or the end of the data. At
the end `getAny` returns at once, and a legal packet without a section has no properties: in both forms the packet's own
list has been applied. The tail is written as the body of a DISCONNECT, which is nothing else; AUTH's body is the same term
(`SPacket.body` has one arm for the two) and the PUBACK family's is `encU16 pid ++` it (`rfl` where used). -/
theorem Stage.Parses.reasonProps (p : α) {k : Nat} (hagree : tablesAgree k tbl = true)
    {form : Form} {reason : UInt8} {ps : List PropOcc} (hps : propsLegal k ps = true)
    (hform : SPacket.formLegal form reason ps = true) (hne : form ≠ .bare) (hold : OldOk tbl (oldOf (wr p reason)))
    (hlen : (SPacket.disconnect form reason ps).body.length < 268435456) :
    Stage.Parses [.get (fun _ => decU8) rd wr, .props tbl oldOf apply] p
      (SPacket.disconnect form reason ps).body (ps.foldl apply (wr p reason)) := by
  cases form with
  | bare => exact absurd rfl hne
  | reason =>
    obtain rfl : ps = [] := by simpa [SPacket.formLegal] using hform
    exact .cons (d := [reason]) (Stage.Reads.u8 reason) (Stage.Parses.props_atEnd _)
  | full =>
    exact .cons (d := [reason]) (Stage.Reads.u8 reason) <| .of_reads <|
      Stage.Reads.props_legal k hagree _ ps hps hold (section_fits ps [reason] [] (by simpa [SPacket.body] using hlen))

/-- DISCONNECT and AUTH: the decoder is a reason code and a property section. The bare form is the empty body, which
`ReadPacket` hands to no decoder: the packet stays `p`, whose reason code is 0 (`hbare`). -/
theorem Packet.Runs.accepts_reasonProps {C : α → Packet} {b0 : UInt8} {p : α}
    (hr : Packet.Runs b0 C (fun _ => [.get (fun _ => decU8) rd wr, .props tbl oldOf apply]) p) (hbare : wr p 0 = p)
    {k : Nat} (hagree : tablesAgree k tbl = true) {form : Form} {reason : UInt8} {ps : List PropOcc}
    (hps : propsLegal k ps = true) (hform : SPacket.formLegal form reason ps = true) (hold : OldOk tbl (oldOf (wr p reason)))
    (hlen : (SPacket.disconnect form reason ps).body.length < 268435456) :
    frameOutcome b0 (SPacket.disconnect form reason ps).body = .pkt (C (ps.foldl apply (wr p reason))) := by
  by_cases hb : form = .bare
  · subst hb
    obtain ⟨rfl, rfl⟩ : reason = 0 ∧ ps = [] := by simpa [SPacket.formLegal] using hform
    rw [List.foldl_nil, hbare, ← hr.dispatch]
    exact frameOutcome_nil b0
  · exact hr.accepts (disconnect_body_ne form reason ps hb) (.reasonProps _ hagree hps hform hb hold hlen)

end ReasonProps

theorem Ack.parses_legal (k : Nat) (hagree : tablesAgree k Ack.table = true) (fx : UInt8) (pid : UInt16) (form : Form)
    (reason : UInt8) (ps : List PropOcc) (hleg : propsLegal k ps = true) (hform : SPacket.formLegal form reason ps = true)
    (hlen : (SPacket.ack k pid form reason ps).body.length < 268435456) :
    ∃ q : Ack, Stage.Parses (Ack.stages (SPacket.ack k pid form reason ps).body) { fixed := fx }
        (SPacket.ack k pid form reason ps).body q
      ∧ q.view = (SPacket.ack k pid form reason ps).view := by
  have hview : (ps.foldl Ack.applyOcc { fixed := fx, packetID := pid, reasonCode := reason }).view
      = (SPacket.ack k pid form reason ps).view := by
    have h := fun p => Ack.fold_reads ps (propsOk_of_legal k Ack.table hagree ps hleg) p
    simp only [Folded, readings, Ack.fields, List.map, vvOf, List.cons.injEq, Prod.mk.injEq, true_and, and_true, Ack.nonProps] at h
    simp only [Ack.view, SPacket.view, (formLegal_reading hform).1, (formLegal_reading hform).2, h]
    simp
  have hbody : (SPacket.ack k pid form reason ps).body = encU16 pid ++ (SPacket.disconnect form reason ps).body := rfl
  rw [hbody, List.length_append] at hlen
  rw [hbody]
  by_cases hb : form = .bare
  · subst hb
    obtain ⟨rfl, rfl⟩ : reason = 0 ∧ ps = [] := by simpa [SPacket.formLegal] using hform
    exact ⟨_, .cons (Stage.Reads.u16 pid) (.when_neg (by simp [SPacket.body])), hview⟩
  · exact ⟨_, .cons (Stage.Reads.u16 pid) <|
      .when_pos (by have := disconnect_body_ne form reason ps hb; simp [encU16]; omega) <|
      .reasonProps _ hagree hleg hform hb (.lastBin rfl) (by omega), hview⟩

theorem frameOutcome_of_unmarshal (b0 : UInt8) (body : Bytes) (p q : Packet) (hd : Packet.dispatch b0 = p)
    (hu : p.unmarshal body = (q, .ok)) : frameOutcome b0 body = .pkt q ∨ (body.length = 0 ∧ frameOutcome b0 body = .pkt p) := by
  unfold frameOutcome
  by_cases h0 : body.length = 0
  · right; simp [h0, hd]
  · left; simp only [h0, if_false, hd, hu]

theorem ack_body_ne (k : Nat) (pid : UInt16) (form : Form) (reason : UInt8) (ps : List PropOcc) :
    (SPacket.ack k pid form reason ps).body.length ≠ 0 := Nat.succ_ne_zero _

theorem ack_nibble (k : Nat) (hk : k ≤ 7) (pid : UInt16) (form : Form) (reason : UInt8) (ps : List PropOcc) :
    ((SPacket.ack k pid form reason ps).firstByte >>> 4).toNat = k := by
  show ((if k = 6 then (0x62 : UInt8) else UInt8.ofNat (k * 16)) >>> 4).toNat = k
  split
  · subst k; rfl
  · exact nibble_ofNat k (by omega)

theorem D_ack (k : Nat) (pid : UInt16) (form : Form) (reason : UInt8) (ps : List PropOcc)
    (hl : (SPacket.ack k pid form reason ps).Legal) :
    ∃ q, frameOutcome (SPacket.ack k pid form reason ps).firstByte (SPacket.ack k pid form reason ps).body = .pkt q
      ∧ q.kind = k ∧ q.view = (SPacket.ack k pid form reason ps).view := by
  obtain ⟨hleg, hlen⟩ := hl
  simp only [SPacket.legal, Bool.and_eq_true, decide_eq_true_eq] at hleg
  obtain ⟨⟨hk, hps⟩, hform⟩ := hleg
  have hk' : k = 4 ∨ k = 5 ∨ k = 6 ∨ k = 7 := by omega
  obtain ⟨C, hC, hrun⟩ := Ack.runs (ack_nibble k hk.2 pid form reason ps) hk'
  obtain ⟨a, hp, hv⟩ := Ack.parses_legal k (Ack.agree k hk') _ pid form reason ps hps hform hlen
  exact ⟨_, hrun.accepts (ack_body_ne k pid form reason ps) hp, (hC a).1, (hC a).2.trans hv⟩

theorem SubAck.agree (k : Nat) (hk : k = 9 ∨ k = 11) : tablesAgree k SubAck.table = true := by
  obtain rfl | rfl := hk <;> decide

theorem Disconnect.agree : tablesAgree 14 Disconnect.table = true := by decide
theorem Auth.agree : tablesAgree 15 Auth.table = true := by decide

theorem SubAck.parses_legal (k : Nat) (hagree : tablesAgree k SubAck.table = true) (fx : UInt8) (pid : UInt16)
    (ps : List PropOcc) (codes : Bytes) (hleg : propsLegal k ps = true)
    (hlen : (SPacket.suback k pid ps codes).body.length < 268435456) :
    ∃ q : SubAck, Stage.Parses SubAck.stages { fixed := fx } (SPacket.suback k pid ps codes).body q
      ∧ q.view = (SPacket.suback k pid ps codes).view := by
  simp only [SPacket.body] at hlen ⊢
  have hsl := section_fits ps (encU16 pid) codes (by simpa [List.append_assoc] using hlen)
  rw [List.append_assoc]
  refine ⟨_, .cons (Stage.Reads.u16 pid) <| .cons (Stage.Reads.props_legal k hagree _ ps hleg (.lastBin rfl) hsl) <|
    .of_eq (r := codes) rfl, ?_⟩
  have hok := propsOk_of_legal k SubAck.table hagree ps hleg
  have h := fun p => SubAck.fold_reads ps hok p
  simp only [Folded, readings, SubAck.fields, List.map, vvOf, List.cons.injEq, Prod.mk.injEq, true_and, and_true, SubAck.nonProps] at h
  simp only [SubAck.view, SPacket.view, h]
  simp

theorem D_suback_L (k : Nat) (pid : UInt16) (ps : List PropOcc) (codes : Bytes)
    (hl : (SPacket.suback k pid ps codes).LegalL) :
    ∃ q, frameOutcome (SPacket.suback k pid ps codes).firstByte (SPacket.suback k pid ps codes).body = .pkt q
      ∧ q.kind = k ∧ q.view = (SPacket.suback k pid ps codes).view := by
  obtain ⟨hleg, hlen⟩ := hl
  simp only [SPacket.legalL, Bool.and_eq_true, Bool.or_eq_true, beq_iff_eq] at hleg
  obtain ⟨hk, hps⟩ := hleg
  obtain ⟨C, hC, hrun⟩ := SubAck.runs (nibble_ofNat k (by obtain rfl | rfl := hk <;> decide)) hk
  obtain ⟨a, hp, hv⟩ := SubAck.parses_legal k (SubAck.agree k hk) _ pid ps codes hps hlen
  exact ⟨_, hrun.accepts (Nat.succ_ne_zero _) hp, (hC a).1, (hC a).2.trans hv⟩

theorem Disconnect.runs : Packet.Runs 0xe0 .disconnect (fun _ => Disconnect.stages) { fixed := 0xe0 } :=
  ⟨by decide, fun _ => by rw [← Disconnect.unmarshal_eq_run]; rfl⟩

theorem D_disconnect (form : Form) (reason : UInt8) (ps : List PropOcc)
    (hl : (SPacket.disconnect form reason ps).Legal) :
    ∃ q, frameOutcome 0xe0 (SPacket.disconnect form reason ps).body = .pkt (.disconnect q)
      ∧ (Packet.disconnect q).view = (SPacket.disconnect form reason ps).view := by
  obtain ⟨hleg, hlen⟩ := hl
  simp only [SPacket.legal, Bool.and_eq_true] at hleg
  obtain ⟨hps, hform⟩ := hleg
  refine ⟨_, Disconnect.runs.accepts_reasonProps rfl Disconnect.agree hps hform (.lastBin rfl) hlen, ?_⟩
  have h := fun p => Disconnect.fold_reads ps (propsOk_of_legal 14 Disconnect.table Disconnect.agree ps hps) p
  simp only [Folded, readings, Disconnect.fields, List.map, vvOf, List.cons.injEq, Prod.mk.injEq, true_and, and_true, Disconnect.nonProps] at h
  simp only [Packet.view, Disconnect.view, SPacket.view, (formLegal_reading hform).1, (formLegal_reading hform).2, h]
  simp

theorem Auth.runs : Packet.Runs 0xf0 .auth (fun _ => Auth.stages) { fixed := 0xf0 } :=
  ⟨by decide, fun _ => by rw [← Auth.unmarshal_eq_run]; rfl⟩

theorem D_auth (form : Form) (reason : UInt8) (ps : List PropOcc)
    (hl : (SPacket.auth form reason ps).Legal) :
    ∃ q, frameOutcome 0xf0 (SPacket.auth form reason ps).body = .pkt (.auth q)
      ∧ (Packet.auth q).view = (SPacket.auth form reason ps).view := by
  obtain ⟨hleg, hlen⟩ := hl
  simp only [SPacket.legal, Bool.and_eq_true] at hleg
  obtain ⟨⟨hps, hform⟩, -⟩ := hleg
  refine ⟨_, Auth.runs.accepts_reasonProps rfl Auth.agree hps hform (.lastBin rfl) hlen, ?_⟩
  have h := fun p => Auth.fold_reads ps (propsOk_of_legal 15 Auth.table Auth.agree ps hps) p
  simp only [Folded, readings, Auth.fields, List.map, vvOf, List.cons.injEq, Prod.mk.injEq, true_and, and_true, Auth.nonProps] at h
  simp only [Packet.view, Auth.view, SPacket.view, (formLegal_reading hform).1, (formLegal_reading hform).2, h]
  simp

theorem D_ping (k : Nat) (hl : (SPacket.ping k).Legal) :
    ∃ q, frameOutcome (SPacket.ping k).firstByte (SPacket.ping k).body = .pkt q
      ∧ q.kind = k ∧ q.view = (SPacket.ping k).view := by
  obtain ⟨hleg, _⟩ := hl
  simp only [SPacket.legal, Bool.or_eq_true, beq_iff_eq] at hleg
  rcases hleg with rfl | rfl
  · exact ⟨.pingreq { fixed := 0xc0 }, by decide, rfl, rfl⟩
  · exact ⟨.pingresp { fixed := 0xd0 }, by decide, rfl, rfl⟩

end Mq
