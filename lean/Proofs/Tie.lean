import Proofs.Tie.Decode
import Proofs.Tie.Consts
import Proofs.Tie.Render
import Proofs.Tie.ReadOnly
import Proofs.Tie.ReadPacket
import Proofs.Tie.Globals
import Proofs.Tie.Retain
import Proofs.Tie.MapRanges
import Proofs.Tie.Cred
/-!
# Proofs.Tie — the ties that every build checks

The nine modules over `Mq/Generated/Facts.lean`, which the extractor can always write (tables, constants, sets of
stores found by analysis). In their theorem names `T1` is the decoders' property maps (Decode), `T3` the constants
(Consts), `T4` the stringer tables (Render), `T5` the stores, kept slices and map ranges found on the read-only,
decoding and reading paths (ReadOnly, ReadPacket, Globals, Retain, MapRanges), `T6` the uses of the credentials (Cred). `T2`, the order of the encoded
properties (Encode), and the modules over the translated sources `Mq/Generated/{Enc,Dec,…}.lean` are not imported
here: a translation may be unavailable on a run (DESIGN.md §0), and `check` builds them through `Props.Src.<Family>`
when it is there.
-/
