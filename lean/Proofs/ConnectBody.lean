import Spec
import Mq.Packet
/-!
# Proofs.ConnectBody — the CONNECT body the specification writes

The flags byte (§3.1.2.3) goes through `cfFin`, the same byte over finite data, so that what the model's accessors
(`has`) and the specification's parser (`&&& m != 0`) read from it are finite tables; the payload's optional parts
(`willBytes`, `optField`) give the body as one right-nested concatenation, the form the decoder, the rejection proofs
and the reference parser all walk. `Publish.view_spec` is the will's view (and PUBLISH's) against the specification's.
-/
namespace Mq
open Spec (SPacket SWill)

def cfFin (cs : Bool) (w : Option (Fin 3 × Bool)) (u p : Bool) : UInt8 :=
  (if u then (0x80 : UInt8) else 0) ||| (if p then (0x40 : UInt8) else 0)
  ||| (match w with
       | some (q, r) => (if r then (0x20 : UInt8) else 0) ||| (UInt8.ofNat q.val <<< 3) ||| 0x04
       | none => 0)
  ||| (if cs then (0x02 : UInt8) else 0)

theorem cfFin_none : ∀ (cs u p : Bool),
    let f := cfFin cs none u p
    has f 2 = cs ∧ has f 128 = u ∧ has f 64 = p ∧ has f 4 = false ∧ has f 1 = false := by
  decide

theorem cfFin_some : ∀ (cs u p : Bool) (q : Fin 3) (r : Bool),
    let f := cfFin cs (some (q, r)) u p
    has f 2 = cs ∧ has f 128 = u ∧ has f 64 = p ∧ has f 4 = true ∧ has f 1 = false
      ∧ has f 32 = r ∧ (f &&& (16 ||| 8)) >>> 3 = UInt8.ofNat q.val := by
  decide

/-- a legal QoS as the index of the tables above -/
theorem qos_mod3 {q : UInt8} (h : q ≤ 2) : UInt8.ofNat (q.toNat % 3) = q := by
  rw [Nat.mod_eq_of_lt (Nat.lt_succ_of_le h : q.toNat < 3), UInt8.ofNat_toNat]

theorem connectFlags_eq (cs : Bool) (will : Option SWill) (hq : ∀ w, will = some w → w.qos ≤ 2)
    (u p : Option Bytes) :
    SPacket.connectFlags cs will u p
      = cfFin cs (will.map fun w => (⟨w.qos.toNat % 3, Nat.mod_lt _ (by decide)⟩, w.retain)) u.isSome p.isSome := by
  unfold SPacket.connectFlags cfFin
  cases will with
  | none => rfl
  | some w => simp only [Option.map_some, qos_mod3 (hq w rfl)]

theorem connectFlags_facts (cs : Bool) (will : Option SWill) (hq : ∀ w, will = some w → w.qos ≤ 2) (user pass : Option Bytes) :
    has (SPacket.connectFlags cs will user pass) Connect.fCleanStart = cs
    ∧ has (SPacket.connectFlags cs will user pass) Connect.fUsername = user.isSome
    ∧ has (SPacket.connectFlags cs will user pass) Connect.fPassword = pass.isSome
    ∧ has (SPacket.connectFlags cs will user pass) Connect.fWillFlag = will.isSome
    ∧ ∀ w, will = some w → has (SPacket.connectFlags cs will user pass) Connect.fWillRetain = w.retain
        ∧ (SPacket.connectFlags cs will user pass &&& (Connect.fWillQoS2 ||| Connect.fWillQoS1)) >>> 3 = w.qos := by
  rw [connectFlags_eq cs will hq user pass]
  cases will with
  | none =>
    obtain ⟨c2, c128, c64, c4, _⟩ := cfFin_none cs user.isSome pass.isSome
    exact ⟨c2, c128, c64, c4, fun _ h => nomatch h⟩
  | some w =>
    obtain ⟨c2, c128, c64, c4, _, c32, cq⟩ :=
      cfFin_some cs user.isSome pass.isSome ⟨w.qos.toNat % 3, Nat.mod_lt _ (by decide)⟩ w.retain
    refine ⟨c2, c128, c64, c4, ?_⟩
    rintro _ ⟨⟩
    exact ⟨c32, cq.trans (qos_mod3 (hq w rfl))⟩

def optField (o : Option Bytes) : Bytes := match o with | some u => encBin u | none => []

def willBytes (will : Option SWill) : Bytes :=
  match will with
  | some w => Spec.propSection w.props ++ encBin w.topic ++ encBin w.payload
  | none => []

theorem connect_body_eq (cs : Bool) (ka : UInt16) (ps : List PropOcc) (cid : Bytes) (will : Option SWill)
    (user pass : Option Bytes) :
    (SPacket.connect cs ka ps cid will user pass).body
      = encBin Connect.mqtt5 ++ (5 :: SPacket.connectFlags cs will user pass :: (encU16 ka ++ (Spec.propSection ps
          ++ (encBin cid ++ (willBytes will ++ (optField user ++ (optField pass ++ []))))))) := by
  -- after reassociation the two sides differ by unfolding `optField`
  simp only [SPacket.body, willBytes, List.append_assoc, List.cons_append, List.nil_append, List.append_nil]
  rfl

/-- `+ 4`: the slack `D_connect_core` asks for; the two sections still fit, ten bytes of the body being fixed -/
theorem Connect.legal_parts {cs : Bool} {ka : UInt16} {ps : List PropOcc} {cid : Bytes} {will : Option SWill}
    {user pass : Option Bytes} (hleg : (SPacket.connect cs ka ps cid will user pass).legal = true)
    (hlen : (SPacket.connect cs ka ps cid will user pass).body.length < 268435456 + 4) :
    Spec.propsLegal 1 ps = true ∧ (Spec.propSection ps).length < 268435456 ∧ cid.length < 65536
      ∧ (∀ w, will = some w → w.qos ≤ 2 ∧ Spec.propsLegal Spec.willK w.props = true ∧ w.topic.length < 65536
          ∧ w.payload.length < 65536 ∧ (Spec.propSection w.props).length < 268435456)
      ∧ (∀ x, user = some x → x.length < 65536) ∧ (∀ x, pass = some x → x.length < 65536) := by
  simp only [SPacket.legal, Bool.and_eq_true, SPacket.strOK, decide_eq_true_eq] at hleg
  obtain ⟨⟨⟨⟨hps, hcid⟩, hwill⟩, huser⟩, hpass⟩ := hleg
  rw [connect_body_eq] at hlen
  have hm5 : (encBin Connect.mqtt5).length = 6 := rfl
  have h16 : (encU16 ka).length = 2 := rfl
  simp only [List.length_append, List.length_cons] at hlen
  refine ⟨hps, by omega, hcid, ?_, fun x hx => by subst hx; simpa using huser, fun x hx => by subst hx; simpa using hpass⟩
  rintro w rfl
  simp only [willBytes, List.length_append] at hlen
  have hw : w.qos ≤ 2 ∧ Spec.propsLegal Spec.willK w.props = true ∧ w.topic.length < 65536 ∧ w.payload.length < 65536 := by
    simpa [and_assoc] using hwill
  exact ⟨hw.1, hw.2.1, hw.2.2.1, hw.2.2.2, by omega⟩

/-- `Publish.view` against the specification's `publishView`, entry by entry: the same fourteen names in the same order, so
the two agree when the fourteen values do. With a prefix for the will of a CONNECT, whose names are never evaluated here. -/
theorem Publish.view_spec (pre : String) (w : Publish) (dup : Bool) (qos : UInt8) (retain : Bool) (topic : Bytes)
    (pid : UInt16) (ps : List PropOcc) (payload : Bytes)
    (h03 : VV.s w.contentType = Spec.propVal ps 0x03 (.s [])) (h09 : VV.s w.correlationData = Spec.propVal ps 0x09 (.s []))
    (hdup : w.duplicate = dup) (h02 : VV.n w.messageExpiryInterval.toNat = Spec.propVal ps 0x02 (.n 0))
    (hpid : w.packetID.toNat = if qos = 0 then 0 else pid.toNat) (hpay : w.payload = payload)
    (h01 : VV.b w.payloadFormat = Spec.propVal ps 0x01 (.b false)) (hqos : w.qos = qos)
    (h08 : VV.s w.responseTopic = Spec.propVal ps 0x08 (.s [])) (hret : w.retain = retain)
    (hsub : w.subscriptionIDs.map UInt32.toNat = Spec.subIDsOf ps)
    (h23 : VV.n w.topicAlias.toNat = Spec.propVal ps 0x23 (.n 0)) (htopic : w.topicName = topic)
    (hups : w.userProps = Spec.userPropsOf ps) :
    w.view.map (fun kv => (pre ++ kv.1, kv.2)) = SPacket.publishView pre dup qos retain topic pid ps payload := by
  simp only [Publish.view, SPacket.publishView, List.map_cons, List.map_nil, h03, h09, hdup, h02, hpid, hpay, h01, hqos,
    h08, hret, hsub, h23, htopic, hups]

end Mq

namespace Spec
open Mq (Bytes)

open Mq (cfFin) in
theorem cfFin_parse_none : ∀ (cs u p : Bool),
    let cf := cfFin cs none u p
    (cf &&& 1 == 0) = true ∧ (cf &&& 4 != 0) = false ∧ (cf &&& 2 != 0) = cs
      ∧ (cf &&& 0x80 != 0) = u ∧ (cf &&& 0x40 != 0) = p ∧ (cf >>> 3) &&& 3 = 0 ∧ (cf &&& 0x20 != 0) = false := by
  decide

open Mq (cfFin) in
theorem cfFin_parse_some : ∀ (cs u p : Bool) (q : Fin 3) (r : Bool),
    let cf := cfFin cs (some (q, r)) u p
    (cf &&& 1 == 0) = true ∧ (cf &&& 4 != 0) = true ∧ (cf &&& 2 != 0) = cs
      ∧ (cf &&& 0x80 != 0) = u ∧ (cf &&& 0x40 != 0) = p ∧ (cf >>> 3) &&& 3 = UInt8.ofNat q.val ∧ (cf &&& 0x20 != 0) = r := by
  decide

theorem connectFlags_parse {cs : Bool} {will : Option SWill} (hq : ∀ w, will = some w → w.qos ≤ 2) {u p : Option Bytes}
    {cf : UInt8} (hcf : SPacket.connectFlags cs will u p = cf) :
    (cf &&& 1 == 0) = true ∧ (cf &&& 4 != 0) = will.isSome ∧ (cf &&& 2 != 0) = cs ∧ (cf &&& 0x80 != 0) = u.isSome
      ∧ (cf &&& 0x40 != 0) = p.isSome ∧ (cf >>> 3) &&& 3 = will.elim 0 SWill.qos
      ∧ (cf &&& 0x20 != 0) = will.elim false SWill.retain := by
  subst hcf
  rw [Mq.connectFlags_eq cs will hq]
  cases will with
  | none => exact cfFin_parse_none cs u.isSome p.isSome
  | some w =>
    obtain ⟨a, b, c, d, e, f, g⟩ := cfFin_parse_some cs u.isSome p.isSome ⟨w.qos.toNat % 3, Nat.mod_lt _ (by decide)⟩ w.retain
    exact ⟨a, b, c, d, e, f.trans (Mq.qos_mod3 (hq w rfl)), g⟩

end Spec
