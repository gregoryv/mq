import Mq.Stream
/-!
# Proofs.Outcome — what `ReadPacket` makes of one frame, as a function of its first byte and its body

An empty body goes to no decoder: the answer is the packet the first byte dispatches to, as constructed. Any other body
is handed to that packet's `UnmarshalBinary`, whose final status decides between the packet and the error.
`Proofs.ReadPacket` shows that `ReadPacket` on a stream returns this; the decoder side needs the function alone.
-/
namespace Mq

/-- a frame whose remaining length is in the minimal encoding -/
def frameBytes (b0 : UInt8) (body : Bytes) : Bytes := b0 :: (encVb body.length ++ body)

/-- what ReadPacket makes of one complete frame — a function of the frame alone -/
def frameOutcome (b0 : UInt8) (body : Bytes) : RP :=
  if body.length = 0 then .pkt (Packet.dispatch b0)
  else match (Packet.dispatch b0).unmarshal body with
    | (q, .ok) => .pkt q
    | (_, .err e) => .err e
    | (_, .panic) => .panic
    | (_, .hang) => .hang

/-- an empty body goes to no decoder -/
theorem frameOutcome_nil (b0 : UInt8) : frameOutcome b0 [] = .pkt (Packet.dispatch b0) := rfl

theorem frameBytes_length (b0 : UInt8) (body : Bytes) :
    (frameBytes b0 body).length = 1 + (encVb body.length).length + body.length := by
  simp [frameBytes]; omega

/-- on a non-empty body `ReadPacket` returns a packet exactly when the decoder of the dispatched type ends `ok`, and then
the packet that decoder leaves -/
theorem frameOutcome_eq_pkt {b0 : UInt8} {body : Bytes} {q : Packet} (hne : body.length ≠ 0) :
    frameOutcome b0 body = .pkt q ↔ (Packet.dispatch b0).unmarshal body = (q, .ok) := by
  rw [frameOutcome, if_neg hne]
  rcases (Packet.dispatch b0).unmarshal body with ⟨q', st⟩
  cases st <;> simp

/-- … and an error exactly when that decoder ends with it -/
theorem frameOutcome_eq_err {b0 : UInt8} {body : Bytes} {e : Err} (hne : body.length ≠ 0) :
    frameOutcome b0 body = .err e ↔ ((Packet.dispatch b0).unmarshal body).2 = .err e := by
  rw [frameOutcome, if_neg hne]
  rcases (Packet.dispatch b0).unmarshal body with ⟨q', st⟩
  cases st <;> simp

theorem frameOutcome_pkt {b0 : UInt8} {body : Bytes} {q : Packet} (h : frameOutcome b0 body = .pkt q) :
    q = Packet.dispatch b0 ∨ q = ((Packet.dispatch b0).unmarshal body).1 := by
  by_cases hne : body.length = 0
  · rw [frameOutcome, if_pos hne] at h; exact .inl (RP.pkt.inj h).symm
  · exact .inr (congrArg Prod.fst ((frameOutcome_eq_pkt hne).mp h)).symm

theorem frameOutcome_ok {b0 : UInt8} {body : Bytes} (hne : body.length ≠ 0)
    (hst : ((Packet.dispatch b0).unmarshal body).2 = .ok) :
    frameOutcome b0 body = .pkt ((Packet.dispatch b0).unmarshal body).1 :=
  (frameOutcome_eq_pkt hne).mpr (Prod.ext rfl hst)

end Mq
