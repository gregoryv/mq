import Proofs.ESimple
/-!
# Proofs.EPublish — E for PUBLISH

Two things the other types do not have: occurrences after the user properties (one subscription identifier per entry,
`fields_section_more`), and a first byte that the type does not fix, read back from its three accessors through a table
over all bytes (`publish_fixed_table`).
-/
namespace Mq
open Spec (SPacket propsLegal propBytes propSection propVal userPropsOf subIDsOf vvOf occLegal propDef?)
open Tie (encFields kinds publishFields)

def subOccs (ids : List UInt32) : List PropOcc := ids.map fun v => ⟨0x0b, .vb v.toNat⟩

def Publish.rep (p : Publish) : List PropOcc := upOccs p.userProps ++ subOccs p.subscriptionIDs
def Publish.occs (p : Publish) : List PropOcc := occsOf (publishFields p) ++ p.rep
def Publish.abs (p : Publish) : SPacket :=
  .publish p.duplicate p.qos p.retain p.topicName p.packetID p.occs p.payload

theorem subIDs_enc (ids : List UInt32) (h : ∀ v ∈ ids, 1 ≤ v.toNat ∧ v.toNat < 268435456) :
    ids.flatMap (fun v => encPropOpt 0x0b (.vb v.toNat)) = propBytes (subOccs ids) := by
  induction ids with
  | nil => rfl
  | cons v ids ih =>
    have hv : v.toNat ≠ 0 := by have := (h v (by simp)).1; omega
    simp only [List.flatMap_cons, subOccs, List.map_cons, propBytes] at ih ⊢
    rw [ih (fun x hx => h x (by simp [hx]))]
    simp [encPropOpt, WVal.isZero, hv, Spec.encOccS]

theorem propDef?_sub : propDef? 0x0b = some { id := 0x0b, ty := .vb, allowed := [3, 8], repeatable := [3] } := rfl

theorem publish_fixed_table : ∀ n : Fin 256,
    let f := UInt8.ofNat n.val
    f &&& 0xf0 = 0x30 →
      (0x30 : UInt8) ||| (if has f 8 then (8 : UInt8) else 0)
        ||| ((if has f 6 then 3 else if has f 2 then 1 else if has f 4 then 2 else (0 : UInt8)) <<< 1)
        ||| (if has f 1 then (1 : UInt8) else 0) = f := by
  decide +kernel

theorem Publish.firstByte_eq (p : Publish) (h : p.fixed &&& 0xf0 = 0x30) : p.abs.firstByte = p.fixed := by
  simp only [Publish.abs, SPacket.firstByte, Publish.duplicate, Publish.qos, Publish.retain]
  exact UInt8.forall_of_fin p.fixed publish_fixed_table h

theorem subIDsOf_append (a b : List PropOcc) : subIDsOf (a ++ b) = subIDsOf a ++ subIDsOf b := by
  simp [subIDsOf, List.filterMap_append]

theorem subIDsOf_subOccs (ids : List UInt32) : subIDsOf (subOccs ids) = ids.map UInt32.toNat := by
  induction ids with
  | nil => rfl
  | cons v ids ih =>
    simp only [subIDsOf, subOccs, List.map_cons, List.filterMap_cons] at ih ⊢
    simp [ih]

theorem subOccs_ids (ids : List UInt32) : ∀ o ∈ subOccs ids, o.id = 0x0b := by
  intro o ho; simp only [subOccs, List.mem_map] at ho; obtain ⟨v, _, rfl⟩ := ho; rfl

theorem Publish.schema : schemaOK 3 Publish.table = true := by decide +kernel

theorem Publish.subID_not_field (p : Publish) : (0x0b : UInt8) ∉ (publishFields p).map (·.1) :=
  (by decide : (0x0b : UInt8) ∉ Publish.table.map (·.1))

/-- subscription identifiers in range may follow the fields of a PUBLISH, any number of them -/
theorem subOccs_repOK (p : Publish) (h : ∀ v ∈ p.subscriptionIDs, 1 ≤ v.toNat ∧ v.toNat < 268435456) :
    RepOK 3 (publishFields p) (subOccs p.subscriptionIDs) := by
  intro o ho
  simp only [subOccs, List.mem_map] at ho
  obtain ⟨v, hv, rfl⟩ := ho
  refine ⟨?_, ⟨_, propDef?_sub, by decide⟩, p.subID_not_field⟩
  simp only [occLegal, propDef?_sub, WVal.kind, Spec.valInRange, (h v hv).2, decide_true, Bool.and_true, beq_self_eq_true]
  decide

/-- of the occurrences a PUBLISH is written with, only those made from its subscription identifiers carry 0x0b -/
theorem Publish.subIDsOf_occs (p : Publish) : subIDsOf p.occs = p.subscriptionIDs.map UInt32.toNat := by
  rw [Publish.occs, Publish.rep, subIDsOf_append, subIDsOf_append, subIDsOf_subOccs,
    subIDsOf_absent _ fun o ho e => p.subID_not_field (e ▸ occsOf_ids ho),
    subIDsOf_absent _ fun o ho => by rw [upOccs_ids _ o ho]; decide]
  rfl

theorem E_publish (p : Publish) (h : p.InDomain) :
    p.abs.Legal ∧ p.abs.unparse = p.encode ∧ p.abs.kind = 3 ∧ p.abs.view = (Packet.publish p).view
    ∧ p.abs.firstByte = p.fixed := by
  obtain ⟨hfix, hq, hpid, r1, r2, r3, r4, hu, hs, hlen⟩ := h
  have hr : FieldsInRange (publishFields p) := .num <| .num <| .num <| .str r2 <| .str r3 <| .str r4 .nil
  obtain ⟨hprops, hleg, hups, hv⟩ := fields_section_more (publishFields p) p.userProps (subOccs p.subscriptionIDs) p.occs rfl
    Publish.schema hr hu (subOccs_repOK p hs) (fun o ho => by rw [subOccs_ids _ o ho]; decide)
    ((Tie.M2_publish p).trans (congrArg _ (subIDs_enc _ hs)))
  -- with a QoS up to 2 the packet identifier is on the wire exactly when the QoS is not 0
  have hid : p.hasPacketID = decide (p.qos ≠ 0) := by
    rcases UInt8.le2_cases p.qos hq with h | h | h <;> rw [Publish.hasPacketID, h] <;> rfl
  have hbody : p.abs.body = p.body := by
    simp only [Publish.abs, SPacket.body, Publish.body, Publish.varHeader, hprops, propSection, hid, decide_eq_true_eq,
      ne_eq, ite_not, List.append_assoc]
  refine E_of_parts (p.firstByte_eq hfix) hbody hlen ?_ rfl ?_
  · simp only [Publish.abs, SPacket.legal, hleg, Bool.and_true, Bool.and_eq_true, decide_eq_true_eq]
    exact ⟨hq, strOK_spec r1⟩
  · simp only [publishFields, forall_mem_cons₂, List.forall_mem_singleton, WVal.dflt, vvOf] at hv
    -- at QoS 0 the specification reads identifier 0, which is what the domain asks the packet to hold
    have hp : (if p.qos = 0 then 0 else p.packetID.toNat) = p.packetID.toNat :=
      ite_eq_right_iff.mpr fun h0 => by rw [hpid h0]; rfl
    simp only [Publish.abs, SPacket.view, Spec.SPacket.publishView, Packet.view, Publish.view, hups, p.subIDsOf_occs, hv, hp,
      String.empty_append]

end Mq
