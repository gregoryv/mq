import Proofs.Bits
/-!
# Proofs.Setters — CONNECT's flag byte follows the values, over every setter history
-/
namespace Mq

theorem Publish.qos_lt4 (p : Publish) : p.qos.toNat < 4 := by
  unfold Publish.qos
  split
  · decide
  · split
    · decide
    · split <;> decide

/-- the relation between CONNECT's flag byte and the values the setters received.
Masks are written as numerals: 128 user name, 64 password, 32 will retain, 24 will QoS (bits 4–3), 4 will flag,
2 clean start, 1 reserved (`Connect.fUsername` … `Connect.fReserved` in the model). Below, `0x3c` = 32 + 24 + 4 is
every bit that speaks of the will, and `0x3d` is those and the reserved bit: what `FlagsInv` says about anything but
the two credentials. -/
structure Connect.FlagsInv (p : Connect) : Prop where
  user : has p.flags 128 = decide (p.username ≠ [])
  pass : has p.flags 64 = decide (p.password ≠ [])
  will : has p.flags 4 = p.will.isSome
  reserved : has p.flags 1 = false
  mirror : ∀ w, p.will = some w →
    has p.flags 32 = w.retain ∧ p.willQoS = (if w.qos.toNat < 3 then w.qos else 0)

theorem Connect.new_inv : Connect.new.FlagsInv := by
  constructor <;> simp [Connect.new, has, Connect.mqtt5]

theorem Connect.willQoS_eq (p : Connect) : p.willQoS = (p.flags &&& 24) >>> 3 := rfl

/-- the frame rule of `FlagsInv`: a call that keeps the will, and the flag bits that speak of it
(will flag, will QoS, will retain: `0x3c`) and the reserved bit, need only answer for the two credential flags -/
theorem Connect.FlagsInv.congr {p q : Connect} (h : p.FlagsInv) (hf : q.flags &&& 0x3d = p.flags &&& 0x3d)
    (hw : q.will = p.will) (hu : has q.flags 128 = decide (q.username ≠ []))
    (hp : has q.flags 64 = decide (q.password ≠ [])) : q.FlagsInv where
  user := hu
  pass := hp
  will := by rw [has_congr (and_congr_sub hf (k := 4) rfl), hw]; exact h.will
  reserved := by rw [has_congr (and_congr_sub hf (k := 1) rfl)]; exact h.reserved
  mirror w e := by
    rw [has_congr (and_congr_sub hf (k := 32) rfl), Connect.willQoS_eq, and_congr_sub hf (k := 24) rfl]
    exact h.mirror w (hw ▸ e)

theorem Connect.FlagsInv.of_eq {p q : Connect} (h : p.FlagsInv) (hf : q.flags = p.flags) (hu : q.username = p.username)
    (hp : q.password = p.password) (hw : q.will = p.will) : q.FlagsInv :=
  h.congr (by rw [hf]) hw (by rw [hf, hu]; exact h.user) (by rw [hf, hp]; exact h.pass)

theorem Connect.setCleanStart_inv (p : Connect) (v : Bool) (h : p.FlagsInv) : (p.setCleanStart v).FlagsInv :=
  h.congr (toggle_and _ 2 0x3d v rfl) rfl ((has_toggle_of_disjoint _ 2 128 v rfl).trans h.user)
    ((has_toggle_of_disjoint _ 2 64 v rfl).trans h.pass)

theorem Connect.setUsername_inv (p : Connect) (v : Bytes) (h : p.FlagsInv) : (p.setUsername v).FlagsInv :=
  h.congr (toggle_and _ 128 0x3d _ rfl) rfl ((has_toggle_self _ 128 _ (by decide)).trans (by cases v <;> rfl))
    ((has_toggle_of_disjoint _ 128 64 _ rfl).trans h.pass)

theorem Connect.setPassword_inv (p : Connect) (v : Bytes) (h : p.FlagsInv) : (p.setPassword v).FlagsInv :=
  h.congr (toggle_and _ 64 0x3d _ rfl) rfl ((has_toggle_of_disjoint _ 64 128 _ rfl).trans h.user)
    ((has_toggle_self _ 64 _ (by decide)).trans (by cases v <;> rfl))

theorem Connect.setWill_flags (p : Connect) (w : Publish) : (p.setWill w).flags = willFlags p.flags w.retain w.qos := by
  unfold Connect.setWill Connect.setWillQoS willFlags; rfl

/-- `SetWill` writes the will bits `0x3c` only -/
theorem Connect.setWill_and (p : Connect) (w : Publish) (k : UInt8) (hk : 0x3c &&& k = 0) :
    (p.setWill w).flags &&& k = p.flags &&& k := by
  rw [Connect.setWill_flags]
  exact (willFlags_and _ _ _ k w.qos_lt4 (disjoint_of_sub (m := 24) rfl hk)).trans
    ((toggle_and _ 32 k _ (disjoint_of_sub (m := 32) rfl hk)).trans (toggle_and _ 4 k _ (disjoint_of_sub (m := 4) rfl hk)))

theorem Connect.setWill_inv (p : Connect) (w : Publish) (h : p.FlagsInv) : (p.setWill w).FlagsInv where
  user := (has_congr (p.setWill_and w 128 rfl)).trans h.user
  pass := (has_congr (p.setWill_and w 64 rfl)).trans h.pass
  reserved := (has_congr (p.setWill_and w 1 rfl)).trans h.reserved
  -- within the will bits: the QoS field 24 is written last, over `toggle (toggle p.flags 4 true) 32 w.retain`
  will := by
    rw [Connect.setWill_flags, has_congr ((willFlags_and _ _ _ 4 w.qos_lt4 rfl).trans (toggle_and _ 32 4 _ rfl))]
    exact has_toggle_self _ 4 true (by decide)
  mirror _ e := by
    cases e
    rw [Connect.willQoS_eq, Connect.setWill_flags, has_congr (willFlags_and _ _ _ 32 w.qos_lt4 rfl)]
    exact ⟨has_toggle_self _ 32 _ (by decide), willFlags_qos _ _ _ w.qos_lt4⟩

/-- what a CONNECT setter can be, as far as the flag byte is concerned -/
theorem Connect.apply_cases (p q : Connect) (op : SetOp) (h : p.apply op = some q) :
    (∃ w, q = p.setWill w) ∨ (∃ v, q = p.setCleanStart v) ∨ (∃ v, q = p.setUsername v) ∨ (∃ v, q = p.setPassword v)
    ∨ (q.flags = p.flags ∧ q.username = p.username ∧ q.password = p.password ∧ q.will = p.will) := by
  cases op <;> cases h
  case setWill w => exact .inl ⟨w, rfl⟩
  case setCleanStart v => exact .inr (.inl ⟨v, rfl⟩)
  case setUsername v => exact .inr (.inr (.inl ⟨v, rfl⟩))
  case setPassword v => exact .inr (.inr (.inr (.inl ⟨v, rfl⟩)))
  all_goals exact .inr (.inr (.inr (.inr ⟨rfl, rfl, rfl, rfl⟩)))

theorem Connect.apply_inv (p q : Connect) (op : SetOp) (h : p.apply op = some q) (hi : p.FlagsInv) : q.FlagsInv := by
  rcases Connect.apply_cases p q op h with ⟨w, rfl⟩ | ⟨v, rfl⟩ | ⟨v, rfl⟩ | ⟨v, rfl⟩ | ⟨e1, e2, e3, e4⟩
  · exact Connect.setWill_inv p w hi
  · exact Connect.setCleanStart_inv p v hi
  · exact Connect.setUsername_inv p v hi
  · exact Connect.setPassword_inv p v hi
  · exact hi.of_eq e1 e2 e3 e4

/-- a setter history: apply each op in turn; `none` as soon as an op is not a method of the type -/
def Packet.applyAll (p : Packet) : List SetOp → Option Packet
  | [] => some p
  | op :: ops => (p.apply op).bind fun q => q.applyAll ops

def Connect.applyAll (p : Connect) : List SetOp → Option Connect
  | [] => some p
  | op :: ops => (p.apply op).bind fun q => q.applyAll ops

theorem Connect.applyAll_inv : ∀ (ops : List SetOp) (p q : Connect), p.applyAll ops = some q → p.FlagsInv → q.FlagsInv
  | [], _, _, h, hi => by cases h; exact hi
  | op :: ops, p, q, h, hi => by
    obtain ⟨p1, h1, h2⟩ := Option.bind_eq_some_iff.mp h
    exact Connect.applyAll_inv ops p1 q h2 (Connect.apply_inv p p1 op h1 hi)

end Mq
