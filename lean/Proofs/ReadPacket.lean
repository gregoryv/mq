import Proofs.Stream
import Proofs.Outcome
/-!
# Proofs.ReadPacket — ReadPacket as a function of the remaining bytes and of how the stream ends
-/
namespace Mq

/-- ReadPacket over plain bytes: outcome and the bytes left in the stream. After the header it is `frameOutcome` of the
announced bytes, if that many are there. -/
def purePacket (d : Bytes) (fail : IOErr) : RP × Bytes :=
  match d with
  | [] => (.err (.io (shortErr fail [])), [])
  | b0 :: d1 =>
    match pureVb 5 d1 fail 1 0 with
    | ((_, some e), d2) => (.err e, d2)
    | ((none, none), d2) => (.hang, d2)
    | ((some n, none), d2) =>
      if n ≤ d2.length then (frameOutcome b0 (d2.take n), d2.drop n) else (.err (.io (shortErr fail d2)), [])

theorem purePacket_cons (b0 : UInt8) (d1 : Bytes) (fail : IOErr) :
    purePacket (b0 :: d1) fail = match pureVb 5 d1 fail 1 0 with
      | ((_, some e), d2) => (.err e, d2)
      | ((none, none), d2) => (.hang, d2)
      | ((some n, none), d2) =>
        if n ≤ d2.length then (frameOutcome b0 (d2.take n), d2.drop n) else (.err (.io (shortErr fail d2)), []) := rfl

/-- ReadPacket answers with an error of its own, or with what it makes of some frame; the `hang` of the length loop's fuel
does not arise -/
theorem purePacket_outcome (d : Bytes) (fail : IOErr) :
    (∃ e, (purePacket d fail).1 = .err e) ∨ ∃ b0 body, (purePacket d fail).1 = frameOutcome b0 body := by
  cases d with
  | nil => exact .inl ⟨_, rfl⟩
  | cons b0 d1 =>
    rw [purePacket_cons]
    have hdec := pureVb_decides d1 fail
    generalize pureVb 5 d1 fail 1 0 = v at hdec
    obtain ⟨⟨on, oe⟩, d2⟩ := v
    cases oe with
    | some e => exact .inl ⟨e, rfl⟩
    | none =>
      cases on with
      | none => exact absurd rfl hdec
      | some n =>
        simp only []
        split
        · exact .inr ⟨b0, _, rfl⟩
        · exact .inl ⟨_, rfl⟩

theorem purePacket_pkt {d : Bytes} {fail : IOErr} {q : Packet} (h : (purePacket d fail).1 = .pkt q) :
    ∃ b0 body, frameOutcome b0 body = .pkt q := by
  rcases purePacket_outcome d fail with ⟨e, he⟩ | ⟨b0, body, hb⟩
  · rw [he] at h; cases h
  · exact ⟨b0, body, hb ▸ h⟩

/-- a read of one byte, as `bits.ReadFrom` and every round of `vbint.ReadFrom` do it -/
theorem readFull_one (r : Reader) :
    ∃ s, readFull r 1 = match r.data with
      | [] => ([], some (shortErr r.fail []), { r with data := [], sched := s })
      | b :: rest => ([b], none, { r with data := rest, sched := s }) := by
  obtain ⟨s, h⟩ := readFull_eq r 1
  exact ⟨s, by rw [h]; cases r.data <;> rfl⟩

/-- the streaming length loop reads what `pureVb` reads, under any schedule -/
theorem readVb_pure : ∀ (fuel : Nat) (r : Reader) (mult acc : Nat),
    ∃ s, readVb fuel r mult acc =
      ((pureVb fuel r.data r.fail mult acc).1, { r with data := (pureVb fuel r.data r.fail mult acc).2, sched := s })
  | 0, r, _, _ => ⟨r.sched, rfl⟩
  | fuel + 1, r, mult, acc => by
    obtain ⟨s, h⟩ := readFull_one r
    rw [readVb, h]
    cases r.data with
    | nil => exact ⟨s, rfl⟩
    | cons b rest =>
      simp only [pureVb]
      split
      · exact ⟨s, rfl⟩
      · split
        · exact ⟨s, rfl⟩
        · exact readVb_pure fuel { r with data := rest, sched := s } _ _

theorem readVb_fst (fuel : Nat) (r : Reader) (m a : Nat) : (readVb fuel r m a).1 = (pureVb fuel r.data r.fail m a).1 := by
  obtain ⟨s, h⟩ := readVb_pure fuel r m a; rw [h]

theorem readVb_data (fuel : Nat) (r : Reader) (m a : Nat) : (readVb fuel r m a).2.data = (pureVb fuel r.data r.fail m a).2 := by
  obtain ⟨s, h⟩ := readVb_pure fuel r m a; rw [h]

/-- first byte, then the remaining length, then as many bytes: each read by its own schedule-free description -/
theorem readPacket_pure (r : Reader) :
    ∃ s, readPacket r = ((purePacket r.data r.fail).1, { r with data := (purePacket r.data r.fail).2, sched := s }) := by
  obtain ⟨s1, h1⟩ := readFull_one r
  rw [readPacket, h1]
  cases r.data with
  | nil => exact ⟨s1, rfl⟩
  | cons b0 d1 =>
    obtain ⟨s2, h2⟩ := readVb_pure 5 { r with data := d1, sched := s1 } 1 0
    simp only [purePacket_cons, h2]
    generalize pureVb 5 d1 r.fail 1 0 = x
    obtain ⟨⟨on, oe⟩, d2⟩ := x
    cases oe with
    | some e => exact ⟨s2, rfl⟩
    | none =>
      cases on with
      | none => exact ⟨s2, rfl⟩
      | some n =>
        by_cases hn : n = 0
        · subst hn; exact ⟨s2, rfl⟩
        · obtain ⟨s3, h3⟩ := readFull_eq { r with data := d2, sched := s2 } n
          simp only [if_neg hn, h3]
          by_cases hle : n ≤ d2.length
          · have hb : (d2.take n).length ≠ 0 := by rw [List.length_take]; omega
            simp only [if_pos hle, frameOutcome, if_neg hb]
            rcases (Packet.dispatch b0).unmarshal (d2.take n) with ⟨q, st⟩
            cases st <;> exact ⟨s3, rfl⟩
          · simp only [if_neg hle]; exact ⟨s3, rfl⟩

theorem readPacket_fst (r : Reader) : (readPacket r).1 = (purePacket r.data r.fail).1 := by
  obtain ⟨s, h⟩ := readPacket_pure r; rw [h]

theorem readPacket_data (r : Reader) : (readPacket r).2.data = (purePacket r.data r.fail).2 := by
  obtain ⟨s, h⟩ := readPacket_pure r; rw [h]

theorem readPacket_fail (r : Reader) : (readPacket r).2.fail = r.fail := by
  obtain ⟨s, h⟩ := readPacket_pure r; rw [h]

theorem readPacket_pkt {r : Reader} {q : Packet} (h : (readPacket r).1 = .pkt q) : ∃ b0 body, frameOutcome b0 body = .pkt q :=
  purePacket_pkt (readPacket_fst r ▸ h)

end Mq
