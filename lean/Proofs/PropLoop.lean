import Proofs.Buf
/-!
# Proofs.PropLoop — the property loop on an encoded property section (the core of C01/C03)
-/
namespace Mq

/-- values inside MQTT's limits -/
def WVal.InRange : WVal → Prop
  | .bin v => v.length < 65536
  | .pair k v => k.length < 65536 ∧ v.length < 65536
  | .vb n => n < 268435456
  | _ => True

theorem encV_length_pos (v : WVal) : 0 < (encV v).length := by
  cases v <;> simp [encV, encPair, encVb_length_pos] <;> omega

/-- `hold` as in `decBin_enc_of`, for the one kind that is read into a destination -/
theorem decK_enc (old : Bytes) (v : WVal) (h : v.InRange) (rest : Bytes)
    (hold : ∀ x, v = .bin x → x = [] → old = []) :
    decK old v.kind (encV v ++ rest) = .ok v (encV v).length := by
  cases v with
  | u8 x => simp [WVal.kind, decK, encV, decU8, DecRes.map]
  | u16 x => simp only [WVal.kind, decK, encV, decU16_enc, DecRes.map]; simp
  | u32 x => simp only [WVal.kind, decK, encV, decU32_enc, DecRes.map]; simp
  | bool x => simp only [WVal.kind, decK, encV, decBool_enc, DecRes.map]; simp
  | bin x =>
    simp only [WVal.InRange] at h
    simp only [WVal.kind, decK, encV, decBin_enc_of old x rest h (hold x rfl), DecRes.map]
    simp; omega
  | pair k x =>
    simp only [WVal.InRange] at h
    simp only [WVal.kind, decK, encV, decPair_enc k x rest h.1 h.2, DecRes.map]
    simp [encPair]; omega
  | vb n =>
    simp only [WVal.InRange] at h
    simp only [WVal.kind, decK, encV, decVb_enc n h rest, DecRes.map]
    simp [vbWidth]

def encOcc (o : PropOcc) : Bytes := o.id :: encV o.val

/-- the loop knows how to read this occurrence: its identifier selects the decoder of its kind -/
def PropOk (tbl : PropTable) (o : PropOcc) : Prop :=
  o.val.InRange ∧
  (tbl.lookup o.id = some o.val.kind
    ∨ (tbl.lookup o.id = none ∧ ((o.id = 0x26 ∧ o.val.kind = .pair) ∨ (o.id = 0x0b ∧ o.val.kind = .vb))))

/-- an empty string/binary value is transmitted only into a destination that is still empty -/
def BinFresh (oldOf : UInt8 → List PropOcc → Bytes) (acc : List PropOcc) (o : PropOcc) : Prop :=
  o.val = .bin [] → oldOf o.id acc = []

theorem get_occ_value (old : Bytes) (v : WVal) (h : v.InRange) (suf : Bytes)
    (hold : ∀ x, v = .bin x → x = [] → old = []) :
    ({ rest := encV v ++ suf, st := .ok } : Buf).get (decK old v.kind) (.u8 0) = ({ rest := suf, st := .ok }, v) :=
  get_enc (decK old v.kind) (.u8 0) v (encV v) suf (by
    intro hnil; have := encV_length_pos v; rw [hnil] at this; simp at this) (decK_enc old v h suf hold)

theorem getAnyLoop_occ (tbl : PropTable) (oldOf : UInt8 → List PropOcc → Bytes) (n0 plen fuel : Nat) (o : PropOcc)
    (acc : List PropOcc) (rest : Bytes) (hok : PropOk tbl o) (hfresh : BinFresh oldOf acc o)
    (hcond : n0 - (encOcc o ++ rest).length < plen) :
    getAnyLoop tbl oldOf n0 plen (fuel + 1) { rest := encOcc o ++ rest, st := .ok } acc
      = getAnyLoop tbl oldOf n0 plen fuel { rest := rest, st := .ok } (acc ++ [o]) := by
  have g1 : ({ rest := encOcc o ++ rest, st := .ok } : Buf).get decU8 0 = ({ rest := encV o.val ++ rest, st := .ok }, o.id) :=
    get_enc decU8 (0 : UInt8) o.id [o.id] (encV o.val ++ rest) (by simp) (by simp [decU8])
  obtain ⟨hr, hcase⟩ := hok
  -- whichever way the identifier is known, it selects the decoder of the value's kind
  have hdec : ∃ old, propDec tbl oldOf o.id acc = some (decK old o.val.kind) ∧ ∀ x, o.val = .bin x → x = [] → old = [] := by
    rcases hcase with hl | ⟨hl, hup | hsub⟩
    · exact ⟨oldOf o.id acc, by simp only [propDec, hl], fun x hx hxe => by subst hxe; exact hfresh hx⟩
    · exact ⟨[], by simp only [propDec, hl]; rw [if_pos hup.1, hup.2], fun _ _ _ => rfl⟩
    · have hne : ¬ (o.id = 0x26) := by rw [hsub.1]; decide
      exact ⟨[], by simp only [propDec, hl]; rw [if_neg hne, if_pos hsub.1, hsub.2], fun _ _ _ => rfl⟩
  obtain ⟨old, hd, hold⟩ := hdec
  rw [getAnyLoop_succ, if_pos hcond]
  simp only [g1, ne_eq, not_true_eq_false, if_false, hd, get_occ_value old o.val hr rest hold, if_true]

/-- The loop goes on while what it has consumed since it was entered, `n0 - rest.length`, is below the declared length
`plen`. The third hypothesis places the cursor (`n0` bytes were there at entry, no fewer than now); the fourth says that
with all of `pre` read the declared length is not exceeded: no round in `pre` is the last. -/
theorem getAnyLoop_prefix (tbl : PropTable) (oldOf : UInt8 → List PropOcc → Bytes) (n0 plen : Nat) :
    ∀ (pre acc : List PropOcc) (suf : Bytes) (fuel : Nat),
      (∀ o ∈ pre, PropOk tbl o) →
      (∀ p o post, pre = p ++ o :: post → BinFresh oldOf (acc ++ p) o) →
      (pre.flatMap encOcc ++ suf).length ≤ n0 →
      n0 - suf.length ≤ plen →
      pre.length ≤ fuel →
      getAnyLoop tbl oldOf n0 plen fuel { rest := pre.flatMap encOcc ++ suf, st := .ok } acc
        = getAnyLoop tbl oldOf n0 plen (fuel - pre.length) { rest := suf, st := .ok } (acc ++ pre) := by
  intro pre
  induction pre with
  | nil => intro acc suf fuel _ _ _ _ _; simp
  | cons o occs ih =>
    intro acc suf fuel hok hbin hle hpl hf
    obtain ⟨fuel, rfl⟩ := Nat.exists_eq_add_one.mpr (Nat.zero_lt_of_lt hf)
    simp only [List.flatMap_cons, List.append_assoc, List.length_append] at hle ⊢
    have hpos : 0 < (encOcc o).length := Nat.succ_pos _
    rw [getAnyLoop_occ tbl oldOf n0 plen fuel o acc _ (hok o (by simp)) (by simpa using hbin [] o occs rfl)
      (by simp only [List.length_append]; omega)]
    rw [ih (acc ++ [o]) suf fuel (fun x hx => hok x (by simp [hx]))
      (fun p x post hsplit => by simpa [List.append_assoc] using hbin (o :: p) x post (by simp [hsplit]))
      (by simp only [List.length_append]; omega) hpl (Nat.le_of_succ_le_succ hf)]
    simp

/-- the fourth hypothesis: what was consumed before `occs`, and `occs`, add up to the declared length exactly, so the loop
stops behind them -/
theorem getAnyLoop_enc (tbl : PropTable) (oldOf : UInt8 → List PropOcc → Bytes) (n0 plen : Nat) :
    ∀ (occs acc : List PropOcc) (suf : Bytes) (fuel : Nat),
      (∀ o ∈ occs, PropOk tbl o) →
      (∀ pre o post, occs = pre ++ o :: post → BinFresh oldOf (acc ++ pre) o) →
      (occs.flatMap encOcc ++ suf).length ≤ n0 →
      n0 - (occs.flatMap encOcc ++ suf).length + (occs.flatMap encOcc).length = plen →
      occs.length < fuel →
      getAnyLoop tbl oldOf n0 plen fuel { rest := occs.flatMap encOcc ++ suf, st := .ok } acc
        = ({ rest := suf, st := .ok }, acc ++ occs) := by
  intro occs acc suf fuel hok hbin hle hpl hf
  have hp : n0 - suf.length = plen := by simp only [List.length_append] at hle hpl; omega
  rw [getAnyLoop_prefix tbl oldOf n0 plen occs acc suf fuel hok hbin hle (Nat.le_of_eq hp) (Nat.le_of_lt hf)]
  -- the declared length is reached: the loop stops
  obtain ⟨m, hm⟩ := Nat.exists_eq_add_one.mpr (Nat.sub_pos_of_lt hf)
  rw [hm, getAnyLoop_succ, if_neg (Nat.not_lt.mpr (Nat.le_of_eq hp.symm))]

def encPropSection (occs : List PropOcc) : Bytes :=
  encVb (occs.flatMap encOcc).length ++ occs.flatMap encOcc

theorem occs_length_le (occs : List PropOcc) : occs.length ≤ (occs.flatMap encOcc).length :=
  length_le_flatMap encOcc (fun _ => Nat.succ_pos _) occs

theorem getAny_enc (tbl : PropTable) (oldOf : UInt8 → List PropOcc → Bytes) (occs : List PropOcc) (suf : Bytes)
    (hok : ∀ o ∈ occs, PropOk tbl o)
    (hbin : ∀ pre o post, occs = pre ++ o :: post → BinFresh oldOf pre o)
    (hlen : (occs.flatMap encOcc).length < 268435456) :
    ({ rest := encPropSection occs ++ suf, st := .ok } : Buf).getAny tbl oldOf = ({ rest := suf, st := .ok }, occs) := by
  unfold encPropSection
  rw [List.append_assoc, getAny_len _ _ _ hlen]
  exact getAnyLoop_enc tbl oldOf _ _ occs [] suf _ hok (by simpa using hbin) (Nat.le_refl _) (by omega)
    (by have := occs_length_le occs; simp only [List.length_append]; omega)

end Mq
