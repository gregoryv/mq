import Mq.Ops
/-!
# Proofs.Bits — flag bytes seen through a mask

Every accessor of a flag byte `f` (`has f m`, CONNECT's will QoS, PUBLISH's QoS, the type nibble) is a
function of `f &&& k` for one mask `k`; the one-bit setters are `toggle`. So two facts carry all of C12's bit
reasoning: `toggle f m v` agrees with `f` through any mask disjoint from `m` (`toggle_and`), and shows
`m` or nothing through `m` itself (`toggle_and_self`). The two setters of a two-bit field, `SetQoS` and `SetWill`
(`willFlags`), clear the field and or the value in: through a disjoint mask that is `toggle_and` twice, through the
field's own mask it is `clear_or_and`.
-/
namespace Mq

/-- a table over `Fin 256`, which `decide` can sweep, as a statement about every byte -/
@[elab_as_elim]
theorem UInt8.forall_of_fin {P : UInt8 → Prop} (b : UInt8) (h : ∀ n : Fin 256, P (UInt8.ofNat n.val)) : P b := by
  have := h ⟨b.toNat, b.toNat_lt⟩
  rwa [UInt8.ofNat_toNat] at this

/-- the type nibble of a first byte -/
theorem UInt8.nibble_lt (b : UInt8) : (b >>> 4).toNat < 16 := by
  rw [UInt8.toNat_shiftRight, Nat.shiftRight_eq_div_pow]
  exact Nat.div_lt_of_lt_mul b.toNat_lt

theorem UInt8.or_and_distrib (a b c : UInt8) : (a ||| b) &&& c = (a &&& c) ||| (b &&& c) :=
  UInt8.toBitVec_inj.1 BitVec.and_or_distrib_right

theorem UInt8.or_and_self (a m : UInt8) : (a ||| m) &&& m = m := by
  apply UInt8.toBitVec_inj.1; ext i hi; simpa using Or.inr

theorem UInt8.not_and_of_disjoint {m k : UInt8} (h : m &&& k = 0) : ~~~m &&& k = k := by
  have := UInt8.or_and_distrib m (~~~m) k
  rwa [h, UInt8.or_not_self, UInt8.neg_one_and, UInt8.zero_or, eq_comm] at this

theorem and_congr_sub {f g K k : UInt8} (h : f &&& K = g &&& K) (hk : K &&& k = k) : f &&& k = g &&& k := by
  rw [← hk, ← UInt8.and_assoc, h, UInt8.and_assoc]

theorem disjoint_of_sub {K m k : UInt8} (hm : K &&& m = m) (hk : K &&& k = 0) : m &&& k = 0 := by
  rw [← hm, UInt8.and_comm K m, UInt8.and_assoc, hk, UInt8.and_zero]

theorem toggle_and (f m k : UInt8) (v : Bool) (h : m &&& k = 0) : toggle f m v &&& k = f &&& k := by
  cases v
  · show f &&& ~~~m &&& k = _; rw [UInt8.and_assoc, UInt8.not_and_of_disjoint h]
  · show (f ||| m) &&& k = _; rw [UInt8.or_and_distrib, h, UInt8.or_zero]

theorem toggle_and_self (f m : UInt8) (v : Bool) : toggle f m v &&& m = if v then m else 0 := by
  cases v
  · show f &&& ~~~m &&& m = _; rw [UInt8.and_assoc, UInt8.not_and_self, UInt8.and_zero]; rfl
  · exact UInt8.or_and_self f m

theorem clear_or_and (f K m : UInt8) (h : K &&& m = m) : (f &&& ~~~K ||| m) &&& K = m := by
  rw [UInt8.or_and_distrib, UInt8.and_assoc, UInt8.not_and_self, UInt8.and_zero, UInt8.zero_or, UInt8.and_comm, h]

theorem has_congr {f g k : UInt8} (h : f &&& k = g &&& k) : has f k = has g k := by
  simp only [has, h]

theorem has_toggle_self (f m : UInt8) (v : Bool) (hm : m ≠ 0) : has (toggle f m v) m = v := by
  cases v <;> simp [has, toggle_and_self, Ne.symm hm]

theorem has_toggle_of_disjoint (f m k : UInt8) (v : Bool) (h : m &&& k = 0) : has (toggle f m v) k = has f k :=
  has_congr (toggle_and f m k v h)

def flagMasks : List UInt8 := [1, 2, 4, 8, 16, 32, 64, 128]

theorem flagMasks_disjoint : ∀ m ∈ flagMasks, ∀ m' ∈ flagMasks, m ≠ m' → m &&& m' = 0 := by decide

/-- the flag byte after `SetWill` of a message with retain `r` and QoS `q` -/
def willFlags (f : UInt8) (r : Bool) (q : UInt8) : UInt8 :=
  toggle ((toggle (toggle f 4 true) 32 r) &&& ~~~((16 : UInt8) ||| 8)) (q <<< 3) (q < 3)

theorem qos_cases {q : UInt8} (hq : q.toNat < 4) : q = 0 ∨ q = 1 ∨ q = 2 ∨ q = 3 := by
  simp only [← UInt8.toNat_inj]; change _ = 0 ∨ _ = 1 ∨ _ = 2 ∨ _ = 3; omega

theorem UInt8.le2_cases (q : UInt8) (h : q ≤ 2) : q = 0 ∨ q = 1 ∨ q = 2 := by
  have h : q.toNat ≤ 2 := UInt8.le_iff_toNat_le.mp h
  simp only [← UInt8.toNat_inj]; change _ = 0 ∨ _ = 1 ∨ _ = 2; omega

/-- 24 = `WillQoS2 | WillQoS1`, the QoS field -/
theorem willFlags_and (f : UInt8) (r : Bool) (q k : UInt8) (hq : q.toNat < 4) (hk : 24 &&& k = 0) :
    willFlags f r q &&& k = toggle (toggle f 4 true) 32 r &&& k := by
  have hq3 : (24 : UInt8) &&& (q <<< (3 : UInt8)) = q <<< (3 : UInt8) := by
    rcases qos_cases hq with rfl | rfl | rfl | rfl <;> rfl
  exact (toggle_and _ _ k _ (disjoint_of_sub hq3 hk)).trans (toggle_and _ 24 k false hk)

theorem willFlags_qos (f : UInt8) (r : Bool) (q : UInt8) (hq : q.toNat < 4) :
    (willFlags f r q &&& 24) >>> 3 = if q.toNat < 3 then q else 0 := by
  rcases qos_cases hq with rfl | rfl | rfl | rfl
  · rw [show willFlags f r 0 &&& 24 = 0 from clear_or_and _ 24 0 rfl]; rfl
  · rw [show willFlags f r 1 &&& 24 = 8 from clear_or_and _ 24 8 rfl]; rfl
  · rw [show willFlags f r 2 &&& 24 = 16 from clear_or_and _ 24 16 rfl]; rfl
  · rw [show willFlags f r 3 &&& 24 = 0 from toggle_and_self _ 24 false]; rfl

/-! PUBLISH's QoS is bits 2–1 of the first byte: the mask 6. -/

theorem Publish.qos_congr {p q : Publish} (h : p.fixed &&& 6 = q.fixed &&& 6) : p.qos = q.qos := by
  simp only [Publish.qos, has_congr h, has_congr (and_congr_sub h (k := 2) rfl), has_congr (and_congr_sub h (k := 4) rfl)]

/-- what `SetQoS v` writes into bits 2–1 -/
def qosBits (v : UInt8) : UInt8 := if v = 1 then 2 else if v = 2 then 4 else if v = 3 then 6 else 0

theorem qosBits_sub (v : UInt8) : 6 &&& qosBits v = qosBits v := by
  unfold qosBits; (repeat' split) <;> rfl

theorem Publish.setQoS_fixed (p : Publish) (v : UInt8) : (p.setQoS v).fixed = p.fixed &&& ~~~6 ||| qosBits v := by
  simp only [Publish.setQoS, qosBits, apply_ite (p.fixed &&& ~~~6 ||| ·), UInt8.or_zero]

theorem Publish.setQoS_and_6 (p : Publish) (v : UInt8) : (p.setQoS v).fixed &&& 6 = qosBits v := by
  rw [Publish.setQoS_fixed]; exact clear_or_and _ 6 _ (qosBits_sub v)

theorem Publish.setQoS_and (p : Publish) (v k : UInt8) (hk : 6 &&& k = 0) : (p.setQoS v).fixed &&& k = p.fixed &&& k := by
  rw [Publish.setQoS_fixed]
  exact (toggle_and _ (qosBits v) k true (disjoint_of_sub (qosBits_sub v) hk)).trans (toggle_and _ 6 k false hk)

theorem Publish.setDuplicate_qos (p : Publish) (v : Bool) : (p.setDuplicate v).qos = p.qos :=
  Publish.qos_congr (toggle_and _ 8 6 v rfl)

theorem Publish.setRetain_qos (p : Publish) (v : Bool) : (p.setRetain v).qos = p.qos :=
  Publish.qos_congr (toggle_and _ 1 6 v rfl)

theorem qosBits_of_gt {v : UInt8} (h : ¬ v.toNat ≤ 3) : qosBits v = 0 := by
  unfold qosBits
  rw [if_neg, if_neg, if_neg] <;> (rintro rfl; exact h (by decide))

/-- `QoS()` reads bits 2–1 only, and there `SetQoS v` has written `qosBits v` -/
theorem Publish.setQoS_qos (p : Publish) (v : UInt8) : (p.setQoS v).qos = if v.toNat ≤ 3 then v else 0 := by
  rw [Publish.qos_congr (q := { fixed := qosBits v })
    ((p.setQoS_and_6 v).trans ((UInt8.and_comm _ _).trans (qosBits_sub v)).symm)]
  by_cases h : v.toNat ≤ 3
  · rcases qos_cases (Nat.lt_succ_of_le h) with rfl | rfl | rfl | rfl <;> rfl
  · rw [if_neg h, qosBits_of_gt h]; rfl

end Mq
