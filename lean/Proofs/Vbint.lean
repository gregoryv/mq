import Proofs.Wire
/-!
# Proofs.Vbint — variable byte integers: the encoder's loop equation, shape and size of the encoding; the two decoder
loops of the model as one; round trip and cut
-/
namespace Mq

theorem encVbAux_fuel : ∀ (f g x : Nat), x ≤ f → x ≤ g → encVbAux f x = encVbAux g x
  | 0, g, x, hf, _ => by obtain rfl : x = 0 := by omega
                         cases g <;> rfl
  | f + 1, 0, x, _, hg => by obtain rfl : x = 0 := by omega
                             rfl
  | f + 1, g + 1, x, hf, hg => by
    rw [encVbAux, encVbAux]
    split
    · rfl
    · rw [encVbAux_fuel f g (x / 128) (by omega) (by omega)]

/-- the loop equation of `vbint.fill` -/
theorem encVb_eq (x : Nat) :
    encVb x = if x < 128 then [UInt8.ofNat x] else UInt8.ofNat (x % 128 + 128) :: encVb (x / 128) := by
  unfold encVb
  cases x with
  | zero => rfl
  | succ n =>
    rw [encVbAux]
    split
    · rfl
    · rw [encVbAux_fuel n ((n + 1) / 128) ((n + 1) / 128) (by omega) (Nat.le_refl _)]

theorem encVb_ne_nil (x : Nat) : encVb x ≠ [] := by
  rw [encVb_eq]; split <;> simp

theorem encVb_length_pos (x : Nat) : 0 < (encVb x).length := List.length_pos_iff.mpr (encVb_ne_nil x)

theorem vbWidth_pos (x : Nat) : 0 < vbWidth x := encVb_length_pos x

/-! The two bytes `encVb_eq` writes, as a decoder reads them. -/

theorem toNat_last {x : Nat} (h : x < 128) : (UInt8.ofNat x).toNat = x :=
  UInt8.toNat_ofNat'.trans (Nat.mod_eq_of_lt (Nat.lt_trans h (by decide)))

theorem toNat_cont (x : Nat) : (UInt8.ofNat (x % 128 + 128)).toNat = x % 128 + 128 :=
  UInt8.toNat_ofNat'.trans (Nat.mod_eq_of_lt (Nat.add_lt_add_right (Nat.mod_lt x (by decide)) 128))

/-- the shape of an encoding: continuation bytes (bit 7 set), then one byte without it -/
def VbShape : Bytes → Prop
  | [] => False
  | [b] => b.toNat < 128
  | b :: c :: rest => 128 ≤ b.toNat ∧ VbShape (c :: rest)

/-- a continuation byte in front of an encoding's shape -/
theorem VbShape.cons {b : UInt8} {l : Bytes} (hb : 128 ≤ b.toNat) (h : VbShape l) : VbShape (b :: l) :=
  match l, h with
  | _ :: _, h => ⟨hb, h⟩

theorem encVb_shape (x : Nat) : VbShape (encVb x) := by
  induction x using Nat.strongRecOn with
  | _ x ih =>
    rw [encVb_eq]
    split
    next h => exact Nat.lt_of_le_of_lt (Nat.le_of_eq (toNat_last h)) h
    next h => exact .cons ((toNat_cont x).symm ▸ Nat.le_add_left _ _) (ih (x / 128) (by omega))

/-- all bytes of a proper prefix have the continuation bit: a decoder that is fed one runs out of bytes -/
theorem vbShape_take (l : Bytes) (h : VbShape l) : ∀ j, j < l.length → ∀ b ∈ l.take j, 128 ≤ b.toNat := by
  induction l with
  | nil => intro j hj; simp at hj
  | cons a t ih =>
    intro j hj b hb
    cases j with
    | zero => simp at hb
    | succ j =>
      cases t with
      | nil => simp at hj
      | cons c rest =>
        simp only [VbShape] at h
        simp only [List.take_succ_cons, List.mem_cons] at hb
        rcases hb with rfl | hb
        · exact h.1
        · exact ih h.2 j (by simpa using hj) b hb

theorem encVb_length_le : ∀ (n x : Nat), x < 128 ^ (n + 1) → (encVb x).length ≤ n + 1
  | 0, x, h => by rw [encVb_eq, if_pos h]; exact Nat.le_refl 1
  | n + 1, x, h => by
    rw [encVb_eq]
    split
    · exact Nat.succ_le_succ (Nat.zero_le _)
    · exact Nat.succ_le_succ (encVb_length_le n (x / 128) (Nat.div_lt_of_lt_mul (by rwa [Nat.mul_comm, ← Nat.pow_succ])))

theorem encVb_length_gt : ∀ (n x : Nat), 128 ^ n ≤ x → n < (encVb x).length
  | 0, x, _ => encVb_length_pos x
  | n + 1, x, h => by
    have h128 : 128 ≤ x := Nat.le_trans (Nat.le_mul_of_pos_left 128 (Nat.pow_pos (by decide))) (Nat.pow_succ .. ▸ h)
    rw [encVb_eq, if_neg (by omega)]
    exact Nat.succ_lt_succ (encVb_length_gt n (x / 128) ((Nat.le_div_iff_mul_le (by decide)).mpr (Nat.pow_succ .. ▸ h)))

/-- the encoding has as many bytes as the value has digits to the base 128 -/
theorem encVb_length_eq (n x : Nat) (lo : 128 ^ n ≤ x) (hi : x < 128 ^ (n + 1)) : (encVb x).length = n + 1 :=
  Nat.le_antisymm (encVb_length_le n x hi) (encVb_length_gt n x lo)

theorem encVb_length (x : Nat) (h : x < 268435456) :
    (encVb x).length = if x < 128 then 1 else if x < 16384 then 2 else if x < 2097152 then 3 else 4 := by
  split
  next h1 => exact Nat.le_antisymm (encVb_length_le 0 x h1) (encVb_length_pos x)
  next h1 =>
    split
    next h2 => exact encVb_length_eq 1 x (Nat.le_of_not_lt h1) h2
    next h2 =>
      split
      next h3 => exact encVb_length_eq 2 x (Nat.le_of_not_lt h2) h3
      next h3 => exact encVb_length_eq 3 x (Nat.le_of_not_lt h3) h

/-- the last byte is the leading digit, which is not 0: no byte of the encoding could be left out -/
theorem encVb_last_ne_zero (x : Nat) (h : 0 < x) : (encVb x).getLast? ≠ some 0 := by
  induction x using Nat.strongRecOn with
  | _ x ih =>
    rw [encVb_eq]
    split
    next hx =>
      intro hc
      have : (0 : UInt8).toNat = x := Option.some.inj hc ▸ toNat_last hx
      exact Nat.ne_of_lt h this
    next hx =>
      have := ih (x / 128) (by omega) (by omega)
      cases hc : encVb (x / 128) with
      | nil => exact absurd hc (encVb_ne_nil _)
      | cons c rest => rw [List.getLast?_cons_cons]; exact hc ▸ this

/-! The streaming decoder (`vbint.ReadFrom`, `Mq.readVb`) runs the same loop as the in-memory one, byte by byte off a
reader. `pureVb` is that loop over plain bytes; it also says what is left, so the round trip is proved for it and
the in-memory loop is read off. -/

/-- the error `io.ReadFull` reports when the stream ends after `got` bytes of the request -/
def shortErr (fail : IOErr) (got : Bytes) : IOErr :=
  match fail with
  | .eof => if got = [] then .eof else .unexpectedEOF
  | x => x

def pureVb : Nat → Bytes → IOErr → Nat → Nat → (Option Nat × Option Err) × Bytes
  | 0, d, _, _, _ => ((none, none), d)
  | fuel + 1, d, fail, mult, acc =>
    match d with
    | [] => ((none, some (.io (shortErr fail []))), [])
    | b :: rest =>
      let acc' := acc + (b.toNat % 128) * mult
      if mult > 128 * 128 * 128 then ((none, some .sizeExceeded), rest)
      else if b.toNat < 128 then ((some acc', none), rest)
      else pureVb fuel rest fail (mult * 128) acc'

/-! Position in the loop: at byte `k` the multiplier is `128 ^ k`, and the size guard `mult > 128³` fires exactly at
the fifth byte. The lemmas below are stated at `128 ^ k`; the decoders start at `128 ^ 0`, which is their `1` by evaluation. -/

theorem vb_guard (k : Nat) : 128 * 128 * 128 < 128 ^ k ↔ 3 < k :=
  Nat.pow_lt_pow_iff_right (a := 128) (n := 3) (by decide)

/-- the streaming loop on a byte in front of which the guard is silent -/
theorem pureVb_cons {k : Nat} (hk : k < 4) (fuel : Nat) (b : UInt8) (d : Bytes) (fail : IOErr) (acc : Nat) :
    pureVb (fuel + 1) (b :: d) fail (128 ^ k) acc =
      if b.toNat < 128 then ((some (acc + b.toNat % 128 * 128 ^ k), none), d)
      else pureVb fuel d fail (128 ^ (k + 1)) (acc + b.toNat % 128 * 128 ^ k) := by
  have hg : ¬ 128 * 128 * 128 < 128 ^ k := mt (vb_guard k).mp (Nat.not_lt.mpr (Nat.le_of_lt_succ hk))
  simp only [pureVb, gt_iff_lt, hg, if_false, Nat.pow_succ]

/-- what the accumulator holds after a continuation byte and the rest of the value -/
theorem vb_acc (x mult acc : Nat) : acc + x % 128 * mult + x / 128 * (mult * 128) = acc + x * mult := by
  rw [Nat.add_assoc, Nat.mul_comm mult, ← Nat.mul_assoc, ← Nat.add_mul, Nat.mod_add_div']

theorem pureVb_enc_gen : ∀ (fuel x : Nat) (rest : Bytes) (fail : IOErr) (acc k : Nat),
    k + (encVb x).length ≤ 4 → (encVb x).length ≤ fuel →
    pureVb fuel (encVb x ++ rest) fail (128 ^ k) acc = ((some (acc + x * 128 ^ k), none), rest)
  | 0, x, _, _, _, _, _, hf => absurd (encVb_length_pos x) (by omega)
  | fuel + 1, x, rest, fail, acc, k, hk, hf => by
    have hk4 : k < 4 := by have := encVb_length_pos x; omega
    rw [encVb_eq] at hk hf ⊢
    by_cases hx : x < 128
    · rw [if_pos hx, List.cons_append, List.nil_append, pureVb_cons hk4, toNat_last hx, if_pos hx, Nat.mod_eq_of_lt hx]
    · rw [if_neg hx] at hk hf
      rw [if_neg hx, List.cons_append, pureVb_cons hk4, toNat_cont, if_neg (by omega), Nat.add_mod_right, Nat.mod_mod,
        pureVb_enc_gen fuel (x / 128) rest fail _ (k + 1) (by simp only [List.length_cons] at hk; omega)
          (Nat.le_of_succ_le_succ hf), Nat.pow_succ, vb_acc]

theorem pureVb_enc (n : Nat) (hn : n < 268435456) (fail : IOErr) (rest : Bytes) :
    pureVb 5 (encVb n ++ rest) fail 1 0 = ((some n, none), rest) := by
  have h4 := encVb_length_le 3 n hn
  have := pureVb_enc_gen 5 n rest fail 0 0 (by omega) (by omega)
  rwa [Nat.zero_add, Nat.mul_one] at this

/-- continuation bytes and then nothing: the stream ends inside the integer -/
theorem pureVb_all_cont : ∀ (fuel : Nat) (d : Bytes) (fail : IOErr) (acc k : Nat), (∀ b ∈ d, 128 ≤ b.toNat) →
    k + d.length ≤ 4 → d.length < fuel →
    pureVb fuel d fail (128 ^ k) acc = ((none, some (.io (shortErr fail []))), [])
  | _ + 1, [], _, _, _, _, _, _ => rfl
  | fuel + 1, b :: d, fail, acc, k, hall, hk, hf => by
    have hk' : k + 1 + d.length ≤ 4 := Nat.succ_add k _ ▸ hk
    rw [pureVb_cons (by omega), if_neg (Nat.not_lt.mpr (hall b List.mem_cons_self))]
    exact pureVb_all_cont fuel d fail _ (k + 1) (fun c hc => hall c (List.mem_cons_of_mem _ hc)) hk'
      (Nat.lt_of_succ_lt_succ hf)

theorem pureVb_prefix (n : Nat) (hn : n < 268435456) (fail : IOErr) (j : Nat) (hj : j < (encVb n).length) :
    pureVb 5 ((encVb n).take j) fail 1 0 = ((none, some (.io (shortErr fail []))), []) := by
  have h4 := encVb_length_le 3 n hn
  have hl : ((encVb n).take j).length = j := List.length_take_of_le (Nat.le_of_lt hj)
  exact pureVb_all_cont 5 _ fail 0 0 (vbShape_take _ (encVb_shape n) j hj) (by omega) (by omega)

/-- on every byte string the in-memory loop and the streaming loop return the same value, or both reject. Five rounds are
enough for the streaming one, since the size guard stops the fifth. -/
theorem decoders_agree_gen : ∀ (fuel : Nat) (d : Bytes) (fail : IOErr) (acc k : Nat), k ≤ 4 → 5 ≤ k + fuel →
    (∃ v, decVbLoop d (128 ^ k) acc = .ok v (vbWidth v) ∧ (pureVb fuel d fail (128 ^ k) acc).1 = (some v, none))
    ∨ ((∃ e, decVbLoop d (128 ^ k) acc = .err e) ∧ ∃ e, (pureVb fuel d fail (128 ^ k) acc).1 = (none, some e))
  | 0, _, _, _, _, hk, hf => absurd hf (Nat.not_le_of_lt (Nat.lt_succ_of_le hk))
  | _ + 1, [], _, _, _, _, _ => .inr ⟨⟨_, rfl⟩, _, rfl⟩
  | fuel + 1, b :: rest, fail, acc, k, hk, hf => by
    rw [decVbLoop, pureVb]
    split
    next => exact .inr ⟨⟨_, rfl⟩, _, rfl⟩
    next hgt =>
      split
      next => exact .inl ⟨_, rfl, rfl⟩
      next =>
        have h3 : k ≤ 3 := Nat.le_of_not_lt (mt (vb_guard k).mpr hgt)
        rw [← Nat.pow_succ]
        exact decoders_agree_gen fuel rest fail _ (k + 1) (Nat.succ_le_succ h3) (Nat.succ_add k fuel ▸ hf)

/-- at the start of the loop, with the five rounds `vbint.ReadFrom` gets -/
theorem decoders_agree (d : Bytes) (fail : IOErr) :
    (∃ v, decVb d = .ok v (vbWidth v) ∧ (pureVb 5 d fail 1 0).1 = (some v, none))
    ∨ ((∃ e, decVb d = .err e) ∧ ∃ e, (pureVb 5 d fail 1 0).1 = (none, some e)) :=
  decoders_agree_gen 5 d fail 0 0 (Nat.zero_le 4) (Nat.le_refl 5)

theorem pureVb_decides (d : Bytes) (fail : IOErr) : (pureVb 5 d fail 1 0).1 ≠ (none, none) := by
  rcases decoders_agree d fail with ⟨v, _, h⟩ | ⟨_, e, h⟩ <;> rw [h] <;> simp

theorem decVb_enc (x : Nat) (hx : x < 268435456) (rest : Bytes) :
    decVb (encVb x ++ rest) = .ok x (vbWidth x) := by
  have h := decoders_agree (encVb x ++ rest) .eof
  rw [pureVb_enc x hx] at h
  rcases h with ⟨v, hv, h⟩ | ⟨_, e, h⟩
  · cases h; exact hv
  · cases h

theorem decVb_long (b1 b2 b3 b4 b5 : UInt8) (rest : Bytes)
    (h1 : 128 ≤ b1.toNat) (h2 : 128 ≤ b2.toNat) (h3 : 128 ≤ b3.toNat) (h4 : 128 ≤ b4.toNat) :
    decVb (b1 :: b2 :: b3 :: b4 :: b5 :: rest) = .err .sizeExceeded := by
  have n1 : ¬ b1.toNat < 128 := by omega
  have n2 : ¬ b2.toNat < 128 := by omega
  have n3 : ¬ b3.toNat < 128 := by omega
  have n4 : ¬ b4.toNat < 128 := by omega
  simp [decVb, decVbLoop, n1, n2, n3, n4]

theorem pureVb_long (b1 b2 b3 b4 b5 : UInt8) (rest : Bytes) (fail : IOErr)
    (h1 : 128 ≤ b1.toNat) (h2 : 128 ≤ b2.toNat) (h3 : 128 ≤ b3.toNat) (h4 : 128 ≤ b4.toNat) :
    ∃ e, (pureVb 5 (b1 :: b2 :: b3 :: b4 :: b5 :: rest) fail 1 0).1 = (none, some e) := by
  rcases decoders_agree (b1 :: b2 :: b3 :: b4 :: b5 :: rest) fail with ⟨v, hv, _⟩ | ⟨_, he⟩
  · have := (decVb_long b1 b2 b3 b4 b5 rest h1 h2 h3 h4).symm.trans hv; cases this
  · exact he

theorem decVbLoop_all_cont (d : Bytes) (hall : ∀ b ∈ d, 128 ≤ b.toNat) : ∀ (m a : Nat), ∃ e, decVbLoop d m a = .err e := by
  induction d with
  | nil => exact fun _ _ => ⟨_, rfl⟩
  | cons b t ih =>
    intro m a
    rw [decVbLoop]
    split
    · exact ⟨_, rfl⟩
    · rw [if_neg (Nat.not_lt.mpr (hall b List.mem_cons_self))]
      exact ih (fun c hc => hall c (List.mem_cons_of_mem _ hc)) _ _

theorem decVbLoop_ne_panic : ∀ (d : Bytes) (m a : Nat), decVbLoop d m a ≠ .panic
  | [], _, _ => nofun
  | b :: t, m, a => by
    rw [decVbLoop]
    split
    · nofun
    · split
      · nofun
      · exact decVbLoop_ne_panic t _ _

theorem noPanic_vb : (decVb).NoPanic := fun d _ => decVbLoop_ne_panic d 1 0

/-- a decoded value is below 2^28, far from where the 64-bit `uint` arithmetic of the Go code would wrap -/
theorem decVbLoop_bound : ∀ (d : Bytes) (acc k : Nat), acc < 128 ^ k →
    ∀ v w, decVbLoop d (128 ^ k) acc = .ok v w → v < 268435456
  | [], _, _, _, _, _, h => nomatch h
  | b :: rest, acc, k, hacc, v, w, h => by
    rw [decVbLoop] at h
    split at h
    next => cases h
    next hgt =>
      -- the guard was silent, so this is one of the first four bytes; the accumulator stays below the next multiplier
      have hk4 : k + 1 ≤ 4 := Nat.succ_le_succ (Nat.le_of_not_lt (mt (vb_guard k).mpr hgt))
      have hnew : acc + b.toNat % 128 * 128 ^ k < 128 ^ (k + 1) := by
        have : b.toNat % 128 * 128 ^ k ≤ 127 * 128 ^ k := Nat.mul_le_mul_right _ (Nat.le_of_lt_succ (Nat.mod_lt _ (by decide)))
        rw [Nat.pow_succ]; omega
      split at h
      next => cases h; exact Nat.lt_of_lt_of_le hnew (Nat.pow_le_pow_right (n := 128) (by decide) hk4)
      next => rw [← Nat.pow_succ] at h; exact decVbLoop_bound rest _ (k + 1) hnew v w h

end Mq
