import Mq.Fill
import Proofs.Wire
/-!
# Proofs.Fill — the Go-shaped fillers refine list append; dry run and real pass agree
-/
namespace Mq

def splice (b : Bytes) (i : Nat) (bs : Bytes) : Bytes := b.take i ++ bs ++ b.drop (i + bs.length)

/-- `f` behaves as a Go `fill` method that writes `bs`. `write` is claimed only with room for all of `bs`: with
less the Go code may write nothing or, for `vbint`, a part. -/
structure Sound (f : Filler) (bs : Bytes) : Prop where
  width : ∀ b i, (f b i).2 = bs.length
  len : ∀ b i, (f b i).1.length = b.length
  write : ∀ b i, i + bs.length ≤ b.length → (f b i).1 = splice b i bs

theorem splice_length (b : Bytes) (i : Nat) (bs : Bytes) (h : i + bs.length ≤ b.length) :
    (splice b i bs).length = b.length := by
  simp [splice]; omega

theorem splice_nil (b : Bytes) (i : Nat) : splice b i [] = b := by simp [splice]

theorem splice_splice (b : Bytes) (i : Nat) (xs ys : Bytes) (h : i + xs.length + ys.length ≤ b.length) :
    splice (splice b i xs) (i + xs.length) ys = splice b i (xs ++ ys) := by
  have hl : (b.take i ++ xs).length = i + xs.length := by simp [List.length_take]; omega
  unfold splice
  rw [← hl, List.take_left, ← List.drop_drop, List.drop_left, List.drop_drop, hl]
  simp [Nat.add_assoc]

theorem Sound.cast {f : Filler} {xs ys : Bytes} (h : Sound f xs) (e : xs = ys) : Sound f ys := e ▸ h

theorem Sound.nop : Sound Filler.nop [] :=
  ⟨fun _ _ => rfl, fun _ _ => rfl, fun b i _ => by simp [Filler.nop, splice_nil]⟩

theorem Sound.seq {f g : Filler} {xs ys : Bytes} (hf : Sound f xs) (hg : Sound g ys) :
    Sound (Filler.seq f g) (xs ++ ys) := by
  refine ⟨?_, ?_, ?_⟩
  · intro b i; simp [Filler.seq, hf.width, hg.width]
  · intro b i; simp [Filler.seq, hg.len, hf.len]
  · intro b i h
    simp only [Filler.seq, hf.width]
    have h' : i + xs.length + ys.length ≤ b.length := by simp at h; omega
    rw [hg.write _ _ (by rw [hf.len]; omega), hf.write _ _ (by omega)]
    exact splice_splice b i xs ys h'

inductive Sounds : List Filler → List Bytes → Prop
  | nil : Sounds [] []
  | cons {f : Filler} {bs : Bytes} {fs : List Filler} {bss : List Bytes} : Sound f bs → Sounds fs bss → Sounds (f :: fs) (bs :: bss)

theorem Sound.seqs {fs : List Filler} {bss : List Bytes} (h : Sounds fs bss) : Sound (Filler.seqs fs) bss.flatten := by
  induction h with
  | nil => simpa [Filler.seqs] using Sound.nop
  | cons h _ ih => simpa [Filler.seqs] using Sound.seq h ih

theorem Sound.dry {f : Filler} {bs : Bytes} (h : Sound f bs) : f.dry = bs.length := h.width _ _

/-- a loop `for _, x := range xs { i += fill x }` -/
theorem Sound.map {α} (xs : List α) (f : α → Filler) (enc : α → Bytes) (h : ∀ x, Sound (f x) (enc x)) :
    Sound (Filler.seqs (xs.map f)) (xs.flatMap enc) := by
  have : Sounds (xs.map f) (xs.map enc) := by
    induction xs with
    | nil => exact .nil
    | cons x xs ih => exact .cons (h x) ih
  simpa [List.flatMap] using Sound.seqs this

theorem Sound.ite {c : Prop} [Decidable c] {f g : Filler} {xs ys : Bytes} (hf : Sound f xs) (hg : Sound g ys) :
    Sound (if c then f else g) (if c then xs else ys) := by
  split <;> assumption

/-- the same `if` written inside a method body -/
theorem Sound.branch {c : Prop} [Decidable c] {f g : Filler} {xs ys : Bytes} (hf : Sound f xs) (hg : Sound g ys) :
    Sound (fun b i => if c then f b i else g b i) (if c then xs else ys) := by
  have : (fun b i => if c then f b i else g b i) = if c then f else g := by split <;> rfl
  exact this ▸ Sound.ite hf hg

/-- the Go shape `if len(data) >= i+n { … }; return n`: one check of the room for all of `bs`, then the writes of `g` -/
theorem Sound.of_guard {f g : Filler} {bs : Bytes} (hg : Sound g bs) (hw : ∀ b i, (f b i).2 = bs.length)
    (hroom : ∀ b i, i + bs.length ≤ b.length → (f b i).1 = (g b i).1)
    (hno : ∀ b i, ¬ i + bs.length ≤ b.length → (f b i).1 = b) : Sound f bs :=
  ⟨hw, fun b i => by
      by_cases h : i + bs.length ≤ b.length
      · rw [hroom b i h, hg.len]
      · rw [hno b i h],
    fun b i h => by rw [hroom b i h, hg.write b i h]⟩

/-- `if len(v) > 0 { i += fill v }`: skipping the empty string writes the same bytes -/
theorem Sound.skipEmpty {f : Filler} {bs : Bytes} (h : Sound f bs) : Sound (if bs.length > 0 then f else Filler.nop) bs := by
  cases bs with
  | nil => exact Sound.nop
  | cons a t => simpa using h

theorem Filler.dry_guard (c : Prop) [Decidable c] (f : Filler) :
    (if c then f.dry else 0) = (if c then f else Filler.nop).dry := by
  split <;> rfl

theorem set_eq_splice (b : Bytes) (i : Nat) (v : UInt8) (h : i + 1 ≤ b.length) : b.set i v = splice b i [v] := by
  simp [splice, List.set_eq_take_append_cons_drop, show i < b.length by omega]

theorem fillByte_sound (v : UInt8) : Sound (fillByte v) [v] := by
  refine ⟨fun _ _ => rfl, ?_, ?_⟩
  · intro b i; simp only [fillByte]; split <;> simp
  · intro b i h
    simp only [List.length_singleton] at h
    simp only [fillByte, ge_iff_le, h, if_true]
    exact set_eq_splice b i v h

theorem fillBool_sound (v : Bool) : Sound (fillBool v) (encBool v) := fillByte_sound _

theorem fillU16_sound (v : UInt16) : Sound (fillU16 v) (encU16 v) :=
  Sound.of_guard (Sound.seq (fillByte_sound _) (fillByte_sound _)) (fun _ _ => rfl)
    (fun b i h => by
      have h : i + 2 ≤ b.length := h
      simp only [fillU16, Filler.seq, fillByte, ge_iff_le, List.length_set, h, show i + 1 ≤ b.length by omega, if_true])
    (fun b i h => by
      have h : ¬ i + 2 ≤ b.length := h
      simp only [fillU16, ge_iff_le, h, if_false])

theorem fillU32_sound (v : UInt32) : Sound (fillU32 v) (encU32 v) :=
  Sound.of_guard (Sound.seq (fillByte_sound _) (Sound.seq (fillByte_sound _) (Sound.seq (fillByte_sound _)
      (fillByte_sound _)))) (fun _ _ => rfl)
    (fun b i h => by
      have h : i + 4 ≤ b.length := h
      simp only [fillU32, Filler.seq, fillByte, ge_iff_le, List.length_set, h, show i + 1 ≤ b.length by omega,
        show i + 1 + 1 ≤ b.length by omega, show i + 1 + 1 + 1 ≤ b.length by omega, if_true, Nat.add_assoc])
    (fun b i h => by
      have h : ¬ i + 4 ≤ b.length := h
      simp only [fillU32, ge_iff_le, h, if_false])

theorem copyAt_eq_splice (b : Bytes) (i : Nat) (src : Bytes) (h : i + src.length ≤ b.length) :
    copyAt b i src = splice b i src := by
  have h1 : src.length ≤ b.length - i := by omega
  simp [copyAt, splice, List.take_of_length_le h1, Nat.min_eq_left h1]

theorem fillRaw_sound (v : Bytes) : Sound (fillRaw v) v := by
  refine ⟨?_, ?_, ?_⟩
  · intro b i; simp only [fillRaw]; split
    · rename_i h; simp only []; omega
    · rfl
  · intro b i; simp only [fillRaw]; split
    · rename_i h; exact (congrArg List.length (copyAt_eq_splice _ _ _ h)).trans (splice_length _ _ _ h)
    · rfl
  · intro b i h
    simp only [fillRaw, ge_iff_le, h, if_true]
    exact copyAt_eq_splice _ _ _ h

theorem fillBin_sound (v : Bytes) : Sound (fillBin v) (encBin v) := by
  have hl : (encBin v).length = 2 + v.length := by simp [encBin]; omega
  refine Sound.of_guard ((Sound.seq (fillU16_sound (UInt16.ofNat v.length)) (fillRaw_sound v)).cast (encBin_eq v).symm)
    ?_ ?_ ?_
  · intro b i; simp only [fillBin]; split <;> simp [hl]
  · intro b i h
    rw [hl] at h
    have h2 : i + 2 + v.length ≤ (fillU16 (UInt16.ofNat v.length) b i).1.length := by
      rw [(fillU16_sound _).len]; omega
    have hw : (fillU16 (UInt16.ofNat v.length) b i).2 = 2 := rfl
    simp only [fillBin, Filler.seq, fillRaw, ge_iff_le, h, hw, h2, if_true]
  · intro b i h
    rw [hl] at h
    simp only [fillBin, ge_iff_le, h, if_false]

/-- the buffer is that of `fill k; fill v`; only the returned width is computed differently -/
theorem fillPair_sound (k v : Bytes) : Sound (fillPair k v) (encPair (k, v)) :=
  have h : Sound (Filler.seq (fillBin k) (fillBin v)) (encPair (k, v)) := Sound.seq (fillBin_sound k) (fillBin_sound v)
  ⟨fun b i => by simp [fillPair, encPair, encBin]; omega, h.len, h.write⟩

/-- the `vbint.fill` loop: each round is a guarded byte write like `fillByte`, followed by the rest of the loop;
filler and encoder run in step on any fuel -/
theorem fillVbAux_sound (fuel x : Nat) : Sound (fillVbAux fuel x) (encVbAux fuel x) := by
  have byte : ∀ v : UInt8, Sound (fun b i => (if i < b.length then b.set i v else b, 1)) [v] := by
    intro v
    have e : fillByte v = fun b i => (if i < b.length then b.set i v else b, 1) := by
      funext b i; simp only [fillByte, ge_iff_le, Nat.succ_le_iff]
    exact e ▸ fillByte_sound v
  induction fuel generalizing x with
  | zero => exact byte _
  | succ fuel ih =>
    by_cases hlt : x < 128
    · have e : fillVbAux (fuel + 1) x = fun b i => (if i < b.length then b.set i (UInt8.ofNat x) else b, 1) := by
        funext b i; simp [fillVbAux, show x / 128 = 0 by omega, Nat.mod_eq_of_lt hlt]
      rw [e, show encVbAux (fuel + 1) x = [UInt8.ofNat x] by simp [encVbAux, hlt]]
      exact byte _
    · have e : fillVbAux (fuel + 1) x = Filler.seq (fun b i => (if i < b.length then b.set i (UInt8.ofNat (x % 128 + 128))
          else b, 1)) (fillVbAux fuel (x / 128)) := by
        funext b i; simp [fillVbAux, show ¬ x / 128 = 0 by omega, show x / 128 > 0 by omega, Filler.seq, Nat.add_comm]
      rw [e, show encVbAux (fuel + 1) x = [UInt8.ofNat (x % 128 + 128)] ++ encVbAux fuel (x / 128) by
        simp [encVbAux, hlt]]
      exact Sound.seq (byte _) (ih _)

theorem fillVb_sound (x : Nat) : Sound (fillVb x) (encVb x) := fillVbAux_sound x x

/-- `n := vbint(f(_LEN, 0)); i += n.fill(b, i); i += f(b, i)`: a section behind its length, which a dry run measures -/
theorem Sounds.sized {f : Filler} {bs : Bytes} {fs : List Filler} {bss : List Bytes} (h : Sound f bs) (t : Sounds fs bss) :
    Sounds (fillVb f.dry :: f :: fs) (encVb bs.length :: bs :: bss) :=
  h.dry ▸ .cons (fillVb_sound _) (.cons h t)

theorem fillV_sound : ∀ v : WVal, Sound (fillV v) (encV v)
  | .u8 v => fillByte_sound v
  | .u16 v => fillU16_sound v
  | .u32 v => fillU32_sound v
  | .bool v => fillBool_sound v
  | .bin v => fillBin_sound v
  | .pair k v => fillPair_sound k v
  | .vb n => fillVb_sound n

theorem fillProp_sound (id : UInt8) (v : WVal) : Sound (fillProp id v) (encPropOpt id v) := by
  unfold fillProp encPropOpt
  by_cases hz : v.isZero = true
  · simp only [hz, if_true]; exact Sound.nop
  · simp only [hz]
    exact Sound.seq (fillByte_sound id) (fillV_sound v)

theorem fillUserProps_sound (ups : UserProps) : Sound (fillUserProps ups) (encUserProps ups) :=
  Sound.map ups _ _ fun kv => fillProp_sound 0x26 (.pair kv.1 kv.2)

theorem fillFrame_sound (fixed : UInt8) {rest : Filler} {body : Bytes} (h : Sound rest body) :
    Sound (fillFrame fixed rest) (frame fixed body) :=
  (Sound.seqs (.cons (fillByte_sound fixed) (.sized h .nil))).cast (by simp [frame])

/-- the frame shape of the packets whose `fill` measures header and payload separately -/
theorem fillFrame2_sound (fixed : UInt8) {vh pl : Filler} {xs ys : Bytes} (hv : Sound vh xs) (hl : Sound pl ys) :
    Sound (Filler.seqs [fillByte fixed, fillVb (vh.dry + pl.dry), vh, pl]) (frame fixed (xs ++ ys)) := by
  rw [hv.dry, hl.dry]
  exact (Sound.seqs (.cons (fillByte_sound _) (.cons (fillVb_sound _) (.cons hv (.cons hl .nil))))).cast
    (by simp [frame])

/-- Go's `WriteTo`: `b := make([]byte, p.fill(_LEN, 0)); p.fill(b, 0)` leaves the encoding in `b` -/
theorem two_pass {f : Filler} {bs : Bytes} (hf : Sound f bs) :
    f.dry = bs.length ∧ (f (List.replicate f.dry 0) 0).1 = bs ∧ (f (List.replicate f.dry 0) 0).2 = bs.length := by
  refine ⟨hf.dry, ?_, hf.width _ _⟩
  rw [hf.dry, hf.write _ _ (by simp)]
  simp [splice]

end Mq
