import Proofs.Tie.Basic
import Proofs.EncodeFields
/-!
# Proofs.Tie.Encode — the order of the encoded properties is the order of the `fillProp` calls in the source

`order name` is the (identifier, wire type) sequence extracted from the `properties` method `name`; the model's
field lists (Proofs.EncodeFields) followed by the user property, and for PUBLISH the subscription identifiers,
have exactly these pairs (`T2_*`).
-/
namespace Mq.Tie
open Mq

def up : List (UInt8 × WKind) := [(38, .pair)]

theorem T2_connect (p : Connect) : kinds (connectFields p) ++ up = order "Connect.properties" := by
  simp only [kinds, connectFields, List.map_cons, List.map_nil, WVal.kind]; decide +kernel

theorem T2_will (p : Connect) (w : Publish) : kinds (willFields p w) ++ up = order "Connect.payload(will)" := by
  simp only [kinds, willFields, List.map_cons, List.map_nil, WVal.kind]; decide +kernel

theorem T2_connack (p : ConnAck) : kinds (connackFields p) ++ up = order "ConnAck.properties" := by
  simp only [kinds, connackFields, List.map_cons, List.map_nil, WVal.kind]; decide +kernel

theorem T2_publish (p : Publish) : kinds (publishFields p) ++ up ++ [(11, .vb)] = order "Publish.properties" := by
  simp only [kinds, publishFields, List.map_cons, List.map_nil, WVal.kind]; decide +kernel

theorem T2_acks : [(31, WKind.bin)] ++ up = order "PubAck.properties" ∧ order "PubRec.properties" = order "PubAck.properties"
    ∧ order "PubRel.properties" = order "PubAck.properties" ∧ order "PubComp.properties" = order "PubAck.properties" := by decide +kernel

theorem T2_disconnect : [(17, WKind.u32), (31, .bin), (28, .bin)] ++ up = order "Disconnect.properties" := by decide +kernel

theorem T2_auth : [(21, WKind.bin), (22, .bin), (31, .bin)] ++ up = order "Auth.properties" := by decide +kernel

/-- SUBSCRIBE, SUBACK, UNSUBACK write their single property by ranging over the one-entry map
(`T1_subscribe`, `T1_subacks`, `T5_map_ranges`), then the user properties. `(0, .u8)` is the extractor's entry for a
`fillProp` whose identifier is not a constant — here the loop variable. It is also what `order` answers, alone, for a
name the table does not have (Proofs.Tie.Basic); the user property behind it tells the two apart, so these equations
fail for a missing method like the others. -/
theorem T2_ranged : order "Subscribe.properties" = [(0, .u8), (38, .pair)]
    ∧ order "SubAck.properties" = [(0, .u8), (38, .pair)] ∧ order "UnsubAck.properties" = [(0, .u8), (38, .pair)] := by decide +kernel

end Mq.Tie
