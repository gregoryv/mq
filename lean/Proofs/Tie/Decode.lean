import Proofs.Tie.Basic
/-!
# Proofs.Tie.Decode — each `propertyMap` of the source has the entries of the model's decoder table (`T1`)

`pmap name` is the (identifier, wire type) set of the map literal `name` in `Facts.propertyMaps`; compared as sets,
a Go map having no order (`T1`…`T6`: Proofs/Tie.lean).
-/
namespace Mq.Tie
open Mq

theorem T1_connect : sameSet (pmap "Connect.propertyMap") Connect.table = true := by decide +kernel
theorem T1_will : sameSet (pmap "Connect.willPropertyMap") Connect.willTable = true := by decide +kernel
theorem T1_connack : sameSet (pmap "ConnAck.propertyMap") ConnAck.table = true := by decide +kernel
theorem T1_publish : sameSet (pmap "Publish.propertyMap") Publish.table = true := by decide +kernel
theorem T1_acks : sameSet (pmap "PubAck.propertyMap") Ack.table = true ∧ sameSet (pmap "PubRec.propertyMap") Ack.table = true
    ∧ sameSet (pmap "PubRel.propertyMap") Ack.table = true ∧ sameSet (pmap "PubComp.propertyMap") Ack.table = true := by decide +kernel
theorem T1_subscribe : sameSet (pmap "Subscribe.propertyMap") Subscribe.table = true := by decide +kernel
theorem T1_subacks : sameSet (pmap "SubAck.propertyMap") SubAck.table = true
    ∧ sameSet (pmap "UnsubAck.propertyMap") SubAck.table = true := by decide +kernel
theorem T1_disconnect : sameSet (pmap "Disconnect.propertyMap") Disconnect.table = true := by decide +kernel
theorem T1_auth : sameSet (pmap "Auth.propertyMap") Auth.table = true := by decide +kernel
/-- no packet type has a property map the model does not know of -/
theorem T1_complete : Facts.propertyMaps.map (·.1) =
    ["Auth.propertyMap", "ConnAck.propertyMap", "Connect.propertyMap", "Connect.willPropertyMap",
     "Disconnect.propertyMap", "PubAck.propertyMap", "PubComp.propertyMap", "PubRec.propertyMap",
     "PubRel.propertyMap", "Publish.propertyMap", "SubAck.propertyMap", "Subscribe.propertyMap",
     "UnsubAck.propertyMap"] := by decide +kernel


end Mq.Tie
