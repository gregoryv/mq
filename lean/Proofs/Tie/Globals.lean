import Proofs.Tie.Basic
/-!
# Proofs.Tie.Globals — `Facts.globalWrites`, the stores through package-level variables, is empty (`T5`; Proofs/Tie.lean)
-/
namespace Mq.Tie
open Mq

/-- no exported operation at all writes through a package-level variable (`mqtt5`, `typeNames`, …);
`_LEN` is never assigned, so it is nil and nothing can be written through it -/
theorem T5_globals : Facts.globalWrites = [] ∧ Facts.neverAssigned.contains "_LEN" = true := by decide


end Mq.Tie
