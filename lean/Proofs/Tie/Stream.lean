import Mq.Generated.Stream
import Proofs.Tie.LengthByte
/-!
# Proofs.Tie.Stream — `ReadPacket` of the source is the model's `readPacket`

`Mq/Generated/Stream.lean` is regenerated on every run from `packet.go` and `wiretypes.go` (extract/streamgen.go):
`ReadPacket`, `fixedHeader.ReadFrom`, the tail of `fixedHeader.ReadRemaining`, `bits.ReadFrom` and `vbint.ReadFrom` over the
model's scripted reader — that each read is an `io.ReadFull`, the buffer sizes, the order of the two header reads, the
constants and the comparison of the length loop, the test that skips an empty body. Here: that rendering is the
`readPacket` of `Mq/Stream.lean`, the function every theorem of C06, C07, C08 and the stream half of C15 is about.
-/
set_option linter.unusedSimpArgs false   -- a guard may be spelled `== 0` or `<= 0`; an argument is used under one spelling only
namespace Mq.Tie.Stream
open Mq

theorem readFrom_eq : ∀ (fuel : Nat) (r : Reader) (m a : Nat), Gen.vbint.readFrom fuel r m a = readVb fuel r m a := by
  intro fuel
  induction fuel with
  | zero => intro r m a; rfl
  | succ fuel ih =>
    intro r m a
    simp only [Gen.vbint.readFrom, readVb]
    rcases readFull r 1 with ⟨bs, e, r'⟩
    cases e with
    | some e => rfl
    | none =>
      cases bs with
      | nil => rfl
      | cons b rest =>
        simp only [low7, last_byte, ih]

/-- With the length loop identified, the source's text is the model's up to the spelling of the test that skips an
empty body (`Nat.le_zero_eq`). -/
theorem readPacket_eq : Gen.readPacket = readPacket := by
  have h : Gen.vbint.readFrom = readVb := by funext f r m a; exact readFrom_eq f r m a
  unfold Gen.readPacket
  simp only [h, Nat.le_zero_eq]
  rfl

/-- every error test of the five stream functions is `err != nil` (the translator accepts `err == nil` in the same
places so that such a flip is refuted here rather than making the function unrecognisable) -/
theorem err_tests : Gen.streamErrTests.length = 5 ∧ Gen.streamErrTests.all (·.2) = true := by decide

theorem complete : Gen.untranslatedStream = [] := by decide

end Mq.Tie.Stream
