import Proofs.Tie.Wire
/-!
# Proofs.Tie.WireVar — strings, binary data and user properties of the source are the model's

`bindata.UnmarshalBinary`, `rawdata.UnmarshalBinary` (the PUBLISH payload), `UserProp.UnmarshalBinary`/`fill` and
`UserProperties.properties`, rendered from `wiretypes.go` and `userprop.go` on every run (extract/wiregen.go). Rests on
`Proofs.Tie.Wire` for the two-byte length prefix.
-/
set_option linter.unusedSimpArgs false   -- a test may be spelled `== 0` or `<= 0`; an argument is used under one spelling only
namespace Mq.Tie.WireVar
open Mq Mq.Tie.Wire

/-- `make([]byte, n)` followed by `copy` from a source of exactly `n` bytes is the source -/
theorem copy_fresh (src : Bytes) (n : Nat) (h : src.length = n) : copyAt (List.replicate n 0) 0 src = src := by
  subst h
  unfold copyAt
  simp

theorem bindata_len (data : Bytes) : Gen.bindata.len data = binLen data := by
  unfold Gen.bindata.len binLen; rw [wuint16_dec]; cases decU16 data <;> rfl

theorem bindata_dec (old : Bytes) : Gen.bindata.dec old = decBin old := by
  funext data
  simp only [Gen.bindata.dec, decBin, bindata_len, Gen.bindata.width]
  by_cases h1 : data.length < binLen data + 2
  · simp [h1]
  · by_cases h2 : binLen data = 0
    · simp [h2]
    · have h2' : ¬ binLen data ≤ 0 := by omega
      have hs : (data.take (binLen data + 2)).drop 2 = (data.drop 2).take (binLen data) := by
        rw [List.drop_take]; simp
      have hl : ((data.drop 2).take (binLen data)).length = binLen data := by
        simp; omega
      simp only [h1, h2, h2', if_false, hs, copy_fresh _ _ hl, hl]

theorem userProp_dec : Gen.UserProp.dec = decPair := by
  funext data
  simp only [Gen.UserProp.dec, decPair, bindata_dec, Gen.UserProp.width, Gen.bindata.width]
  cases decBin [] data with
  | err e => rfl
  | panic => rfl
  | ok k w =>
    simp only []
    by_cases h : k.length + 2 > data.length
    · simp [h]
    · simp only [h, if_false]
      cases decBin [] (data.drop (k.length + 2)) <;> rfl

theorem userProp_fill (kv : Bytes × Bytes) : Gen.UserProp.fill kv = fillPair kv.1 kv.2 := by
  funext b i
  simp only [Gen.UserProp.fill, fillPair, bindata_fill, Gen.UserProp.width, Gen.bindata.width]

theorem rawdata_dec : Gen.rawdata.dec = decRaw := by
  funext data
  simp only [Gen.rawdata.dec, decRaw, Gen.rawdata.width, copy_fresh data data.length rfl]

theorem userProps_fill (ups : UserProps) : Gen.UserProperties.properties ups = fillUserProps ups := by
  unfold Gen.UserProperties.properties fillUserProps
  have : ∀ kv : Bytes × Bytes, Gen.UserProp.fillProp 38 kv = fillProp 0x26 (.pair kv.1 kv.2) := by
    intro kv
    funext b i
    simp only [Gen.UserProp.fillProp, fillProp, WVal.isZero, fillV, ident_fill, userProp_fill]
    by_cases h : kv.1.isEmpty = true <;> simp [h]
  simp only [this]

/-- both error tests of `UserProp.UnmarshalBinary` read `err != nil` (the translator accepts the other spelling so that a
flip is refuted here) -/
theorem userProp_errTests : Gen.UserProp.errTests = true := by decide

theorem complete : Gen.untranslatedWireVar = [] := by decide

end Mq.Tie.WireVar
