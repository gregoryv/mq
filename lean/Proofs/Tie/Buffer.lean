import Mq.Generated.Buffer
/-!
# Proofs.Tie.Buffer — the cursor of `buffer.go`, as the source keeps it, refines the model's cursor

`Mq/Generated/Buffer.lean` is regenerated on every run from `buffer.go` (extract/bufgen.go): `get`, `atEnd` and the
property loop `getAny` over the representation of the Go code — the whole data, the offset `i`, the first error — with
the comparison operators of every guard taken from the source. The model (`Mq/Buf.lean`) keeps only the unread rest.
Here: under the invariant `i ≤ len(data)` (true of a fresh buffer, preserved by every call) the abstraction
`rest = data[i:]` commutes with every operation — same status, same decoded values, same unread bytes.
-/
set_option linter.unusedSimpArgs false   -- the guards are spelled by the source; an argument is used under one spelling only
namespace Mq.Tie.Buffer
open Mq Mq.Gen

def abs (b : IBuf) : Buf := { rest := b.data.drop b.i, st := b.st }

def Inv (b : IBuf) : Prop := b.i ≤ b.data.length

theorem inv_fresh (data : Bytes) : Inv { data := data, i := 0 } := Nat.zero_le _
theorem abs_fresh (data : Bytes) : abs { data := data, i := 0 } = { rest := data } := by simp [abs]

theorem rest_length (b : IBuf) : (abs b).rest.length = b.data.length - b.i := by
  simp [abs]

theorem atEnd_eq (b : IBuf) (h : Inv b) : b.atEnd = decide ((abs b).rest = []) := by
  unfold Inv at h
  unfold IBuf.atEnd abs
  apply decide_eq_decide.mpr
  show _ ↔ b.data.drop b.i = []
  constructor <;> intro hh <;> simp only [List.drop_eq_nil_iff] at * <;> omega

/-- The proof does not depend on how the source spells a guard: `b.i >= len(b.data)` and `b.i == len(b.data)` are the
same test under the invariant, and either is accepted. -/
theorem get_refines {α} (b : IBuf) (h : Inv b) (dec : Dec α) (old : α) :
    abs (b.get dec old).1 = ((abs b).get dec old).1 ∧ (b.get dec old).2 = ((abs b).get dec old).2
    ∧ Inv (b.get dec old).1 ∧ (b.get dec old).1.data = b.data ∧ b.i ≤ (b.get dec old).1.i := by
  unfold Inv at *
  unfold IBuf.get Buf.get
  cases hs : b.st with
  | err e => simp [abs, hs, h]
  | panic => simp [abs, hs, h]
  | hang => simp [abs, hs, h]
  | ok =>
    have hst' : (abs b).st = .ok := hs
    have hrest : (abs b).rest = b.data.drop b.i := rfl
    simp only [hst', hrest, ne_eq, not_true_eq_false, if_false, List.drop_eq_nil_iff, List.length_drop]
    by_cases hi : b.data.length ≤ b.i
    · have e : b.i = b.data.length := by omega
      simp [abs, hi, e]
    · have h1 : ¬ b.i ≥ b.data.length := by omega
      have h2 : ¬ b.i = b.data.length := by omega
      have h3 : ¬ b.i > b.data.length := by omega
      simp only [hi, h1, h2, h3, h, if_false, if_true]
      cases hd : dec (b.data.drop b.i) with
      | err e => simp [abs, h]
      | panic => simp [abs, h]
      | ok v w =>
        by_cases hw : w ≤ b.data.length - b.i
        · have g1 : ¬ b.i + w > b.data.length := by omega
          simp only [hw, g1, if_true, if_false]
          simp [abs, List.drop_drop, Nat.add_comm]; omega
        · have g1 : b.i + w > b.data.length := by omega
          simp only [hw, g1, if_true, if_false]
          simp [abs, h]

theorem get_pair {α} (b : IBuf) (h : Inv b) (dec : Dec α) (old : α) (b1 : IBuf) (v : α)
    (hr : b.get dec old = (b1, v)) :
    (abs b).get dec old = (abs b1, v) ∧ Inv b1 ∧ b1.data = b.data ∧ b.i ≤ b1.i := by
  have := get_refines b h dec old
  rw [hr] at this
  obtain ⟨h1, h2, h3, h4, h5⟩ := this
  refine ⟨?_, h3, h4, h5⟩
  simp only at h1 h2
  rw [h1, h2]

def Sim (len : Nat) (x : IBuf × List PropOcc) (y : Buf × List PropOcc) : Prop :=
  abs x.1 = y.1 ∧ x.2 = y.2 ∧ Inv x.1 ∧ x.1.data.length = len

/-- the property loop: the loop test `b.i < end` with `end = i0 + plen` is the model's test on the bytes consumed since
the loop was entered at offset `i0` -/
theorem loop_refines (tbl : PropTable) (oldOf : UInt8 → List PropOcc → Bytes) (len i0 plen : Nat) :
    ∀ (fuel : Nat) (b : IBuf) (acc : List PropOcc), Inv b → b.data.length = len → i0 ≤ b.i →
      Sim len (IBuf.getAnyLoop tbl oldOf (i0 + plen) fuel b acc) (getAnyLoop tbl oldOf (len - i0) plen fuel (abs b) acc) := by
  intro fuel
  induction fuel with
  | zero =>
    intro b acc h hl _
    simp only [IBuf.getAnyLoop, getAnyLoop]
    exact ⟨rfl, rfl, h, hl⟩
  | succ fuel ih =>
    intro b acc h hl h0
    have hlen : (abs b).rest.length = len - b.i := by rw [rest_length, hl]
    have hI : b.i ≤ len := hl ▸ h
    simp only [IBuf.getAnyLoop, getAnyLoop, hlen]
    by_cases hc : b.i < i0 + plen
    · have hc' : len - i0 - (len - b.i) < plen := by omega
      simp only [hc, hc', if_true]
      rcases hr : b.get decU8 0 with ⟨b1, id⟩
      obtain ⟨e1, i1, d1, m1⟩ := get_pair b h decU8 0 b1 id hr
      simp only [e1, show (abs b1).st = b1.st from rfl]
      have hl1 : b1.data.length = len := by rw [d1, hl]
      have h01 : i0 ≤ b1.i := Nat.le_trans h0 m1
      -- the three ways to a value (table entry, user property, subscription identifier) differ in the decoder only
      have value : ∀ d : Dec WVal,
          Sim len
            (match b1.get d (.u8 0) with
              | (b', v) => if b'.st = St.ok then IBuf.getAnyLoop tbl oldOf (i0 + plen) fuel b' (acc ++ [⟨id, v⟩])
                  else IBuf.getAnyLoop tbl oldOf (i0 + plen) fuel b' acc)
            (match (abs b1).get d (.u8 0) with
              | (b', v) => if b'.st = St.ok then getAnyLoop tbl oldOf (len - i0) plen fuel b' (acc ++ [⟨id, v⟩])
                  else getAnyLoop tbl oldOf (len - i0) plen fuel b' acc) := by
        intro d
        rcases hr2 : b1.get d (.u8 0) with ⟨b2, v⟩
        obtain ⟨e2, i2, d2, m2⟩ := get_pair b1 i1 _ _ b2 v hr2
        simp only [e2, show (abs b2).st = b2.st from rfl]
        have hl2 : b2.data.length = len := by rw [d2, hl1]
        split <;> exact ih b2 _ i2 hl2 (Nat.le_trans h01 m2)
      by_cases hs1 : b1.st = .ok
      · simp only [hs1, ne_eq, not_true_eq_false, if_false]
        cases hk : tbl.lookup id with
        | some k => exact value _
        | none =>
          by_cases h38 : id = 38
          · simp only [if_pos h38]; exact value _
          · by_cases h11 : id = 11
            · simp only [if_neg h38, if_pos h11]; exact value _
            · simp only [if_neg h38, if_neg h11]; exact ih { b1 with st := .err (.unknownProp id) } _ i1 hl1 h01
      · simp only [hs1, ne_eq, not_false_eq_true, if_true]
        exact ⟨rfl, rfl, i1, hl1⟩
    · have hc' : ¬ (len - i0 - (len - b.i) < plen) := by omega
      simp only [hc, hc', if_false]
      exact ⟨rfl, rfl, h, hl⟩

theorem getAny_refines (b : IBuf) (h : Inv b) (tbl : PropTable) (oldOf : UInt8 → List PropOcc → Bytes) :
    abs (b.getAny tbl oldOf).1 = ((abs b).getAny tbl oldOf).1 ∧ (b.getAny tbl oldOf).2 = ((abs b).getAny tbl oldOf).2
    ∧ Inv (b.getAny tbl oldOf).1 ∧ (b.getAny tbl oldOf).1.data.length = b.data.length := by
  unfold IBuf.getAny Buf.getAny
  rw [atEnd_eq b h]
  by_cases hn : (abs b).rest = []
  · simp only [hn, decide_true, if_true]; exact ⟨trivial, trivial, h, trivial⟩
  · simp only [hn, decide_false, if_false, Bool.false_eq_true]
    rcases hr : b.get decVb 0 with ⟨b1, plen⟩
    obtain ⟨e1, i1, d1, m1⟩ := get_pair b h decVb 0 b1 plen hr
    simp only [e1]
    rw [rest_length, ← d1]
    exact loop_refines tbl oldOf b1.data.length b1.i plen (b1.data.length - b1.i + 1) b1 [] i1 rfl (Nat.le_refl _)

end Mq.Tie.Buffer
