import Proofs.Tie.Basic
/-!
# Proofs.Tie.ReadPacket — `Facts.readPacketWrites`, the stores of `ReadPacket` outside what it allocates, is empty
(`T5`; Proofs/Tie.lean)
-/
namespace Mq.Tie
open Mq

/-- ReadPacket writes only what it allocates and its own reader -/
theorem T5_read_packet : Facts.readPacketWrites = [] := by decide


end Mq.Tie
