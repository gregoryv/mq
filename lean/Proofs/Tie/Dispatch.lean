import Mq.Generated.Dec
import Proofs.Bits
/-!
# Proofs.Tie.Dispatch — the type switch of `fixedHeader.ReadRemaining` is the model's `Packet.dispatch`

`Gen.dispatch` is regenerated from the `switch byte(f.fixed) & 0b1111_0000 { case K: p = &T{fixed: f.fixed} … }`
of packet.go on every run (extract/decgen.go).
-/
namespace Mq.Tie.Dispatch
open Mq

/-- the source masks the first byte with `0xf0` and compares with the type constants `k << 4`, the model shifts it
right by four and matches on `k` -/
theorem high_nibble (b : UInt8) : b &&& (240 : UInt8) = UInt8.ofNat ((b >>> 4).toNat * 16) :=
  UInt8.forall_of_fin b (by decide +kernel)

theorem dispatch_eq (b0 : UInt8) : Gen.dispatch b0 = Packet.dispatch b0 := by
  have hk := UInt8.nibble_lt b0
  unfold Gen.dispatch Packet.dispatch
  rw [high_nibble]
  generalize (b0 >>> 4).toNat = k at hk ⊢
  -- k = 0, …, 15 (in each case the tests of the switch are decided, in whatever order it lists them), or 16 + k
  rcases k with _|_|_|_|_|_|_|_|_|_|_|_|_|_|_|_|k
  iterate 16 rfl
  omega

end Mq.Tie.Dispatch
