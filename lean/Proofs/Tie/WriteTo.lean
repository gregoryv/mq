import Mq.Generated.WriteTo
import Mq.Packet
/-!
# Proofs.Tie.WriteTo — every packet type writes its frame the way `Mq.writeTo` models it

`Mq/Generated/WriteTo.lean` is regenerated on every run (extract/writetogen.go): for every type with a `WriteTo`, that
it is `b := make([]byte, <dry fill at offset 0>); p.fill(b, 0); n, err := w.Write(b); return int64(n), err` — one
allocation of the measured size, one fill from offset 0, exactly one `Write`, its count and error passed on — and that
`width()`, which `String()` prints as `N bytes`, is the same dry fill. `Undefined` is the only type that refuses.
-/
namespace Mq.Tie.WriteTo
open Mq

/-- the 15 defined types, each measuring, filling and reporting from offset 0 -/
theorem shapes : Gen.writeToShapes.length = 15
    ∧ (∀ k : Fin 15, (Gen.writeToShapes.find? fun e => e.1 == Packet.kindName (k.val + 1)).map (·.2) = some (0, 0, 0)) := by
  decide +kernel

theorem refuses : Gen.writeToRefuses = [Packet.kindName 0] := by decide

theorem complete : Gen.untranslatedWriteTo = [] := by decide

end Mq.Tie.WriteTo
