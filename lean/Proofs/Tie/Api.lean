import Mq.Generated.Api
import Mq.Ops
/-!
# Proofs.Tie.Api — the API model is the source, translated

`Mq/Generated/Api.lean` is regenerated on every run from the exported `Set…`/`Add…` methods of
/repo (extract/apigen.go): which field each call stores into, which flag bit it toggles with which
condition, what it appends to. The theorems say that the hand-written `<Type>.apply` of `Mq/Ops.lean`
— the model of the public API that C12, `C01_api`/`C02_api` and the reachability invariants
(`Proofs/Reach.lean`) are about — is that translation, for every `SetOp`, and that every exported
accessor's value is the entry of that name in the model's `view`.
-/
namespace Mq.Tie.Api
open Mq

theorem auth_api (p : Auth) (op : SetOp) : Gen.Auth.api p op = p.apply op := by
  cases op <;> rfl

theorem connAck_api (p : ConnAck) (op : SetOp) : Gen.ConnAck.api p op = p.apply op := by
  cases op <;> rfl

theorem connect_api (p : Connect) (op : SetOp) : Gen.Connect.api p op = p.apply op := by
  cases op
  -- the source stores `nil` for an empty user name, where the model stores the empty list it was given
  case setUsername v => cases v <;> rfl
  all_goals rfl

theorem disconnect_api (p : Disconnect) (op : SetOp) : Gen.Disconnect.api p op = p.apply op := by
  cases op <;> rfl

theorem pubAck_api (p : Ack) (op : SetOp) : Gen.PubAck.api p op = p.apply op := by
  cases op <;> rfl

/- PUBREC, PUBREL and PUBCOMP have PUBACK's setters and accessors word for word (UNSUBACK has SUBACK's), so their
translations are the same functions by definition. -/
theorem pubComp_api (p : Ack) (op : SetOp) : Gen.PubComp.api p op = p.apply op := pubAck_api p op
theorem pubRec_api (p : Ack) (op : SetOp) : Gen.PubRec.api p op = p.apply op := pubAck_api p op
theorem pubRel_api (p : Ack) (op : SetOp) : Gen.PubRel.api p op = p.apply op := pubAck_api p op

theorem publish_api (p : Publish) (op : SetOp) : Gen.Publish.api p op = p.apply op := by
  cases op
  case setQoS v =>
    -- the source tests `v` around the assignment to the first byte, the model inside it
    simp only [Gen.Publish.api, Publish.apply, Publish.setQoS, apply_ite (fun x => ({ p with fixed := x } : Publish))]
    rfl
  all_goals rfl

theorem subAck_api (p : SubAck) (op : SetOp) : Gen.SubAck.api p op = p.apply op := by
  cases op <;> rfl

theorem subscribe_api (p : Subscribe) (op : SetOp) : Gen.Subscribe.api p op = p.apply op := by
  cases op <;> rfl

theorem unsubAck_api (p : SubAck) (op : SetOp) : Gen.UnsubAck.api p op = p.apply op := subAck_api p op

theorem unsubscribe_api (p : Unsubscribe) (op : SetOp) : Gen.Unsubscribe.api p op = p.apply op := by
  cases op <;> rfl

theorem pingReq_api (p : Ping) (op : SetOp) : Gen.PingReq.api p op = none := rfl
theorem pingResp_api (p : Ping) (op : SetOp) : Gen.PingResp.api p op = none := rfl

/-! The accessor lists. The first `simp only` turns `∀ kv ∈ [a, b, …]` over the generated entries into a conjunction; the
second unfolds the model's `view` to its literal list, where `a ∈ [x, y, …]` is `a = x ∨ a = y ∨ …` and one disjunct is
`a = a`. An accessor that the view does not list, or lists under another name or value, leaves a disjunction of
equations between different terms, and the proof fails. -/

theorem auth_accessors (p : Auth) : ∀ kv ∈ Gen.Auth.accessors p, kv ∈ p.view := by
  simp only [Gen.Auth.accessors, List.forall_mem_cons]
  simp only [Auth.view, List.mem_cons, true_or, or_true, and_self, List.not_mem_nil, false_imp_iff, implies_true]

theorem connAck_accessors (p : ConnAck) : ∀ kv ∈ Gen.ConnAck.accessors p, kv ∈ p.view := by
  simp only [Gen.ConnAck.accessors, List.forall_mem_cons]
  simp only [ConnAck.view, ConnAck.sessionPresent, List.mem_cons, true_or, or_true, and_self, List.not_mem_nil, false_imp_iff, implies_true]

theorem connect_accessors (p : Connect) : ∀ kv ∈ Gen.Connect.accessors p, kv ∈ p.view := by
  simp only [Gen.Connect.accessors, List.forall_mem_cons]
  simp only [Connect.view, Connect.fCleanStart, List.mem_append, List.mem_cons, true_or, or_true, and_self, List.not_mem_nil, false_imp_iff, implies_true]

theorem disconnect_accessors (p : Disconnect) : ∀ kv ∈ Gen.Disconnect.accessors p, kv ∈ p.view := by
  simp only [Gen.Disconnect.accessors, List.forall_mem_cons]
  simp only [Disconnect.view, List.mem_cons, true_or, or_true, and_self, List.not_mem_nil, false_imp_iff, implies_true]

theorem pubAck_accessors (p : Ack) : ∀ kv ∈ Gen.PubAck.accessors p, kv ∈ p.view := by
  simp only [Gen.PubAck.accessors, List.forall_mem_cons]
  simp only [Ack.view, List.mem_cons, true_or, or_true, and_self, List.not_mem_nil, false_imp_iff, implies_true]

theorem pubComp_accessors (p : Ack) : ∀ kv ∈ Gen.PubComp.accessors p, kv ∈ p.view := pubAck_accessors p

theorem pubRec_accessors (p : Ack) : ∀ kv ∈ Gen.PubRec.accessors p, kv ∈ p.view := pubAck_accessors p

theorem pubRel_accessors (p : Ack) : ∀ kv ∈ Gen.PubRel.accessors p, kv ∈ p.view := pubAck_accessors p

theorem publish_accessors (p : Publish) : ∀ kv ∈ Gen.Publish.accessors p, kv ∈ p.view := by
  simp only [Gen.Publish.accessors, List.forall_mem_cons]
  simp only [Publish.view, Publish.duplicate, Publish.retain, List.mem_cons, true_or, or_true, and_self, List.not_mem_nil, false_imp_iff, implies_true]

theorem subAck_accessors (p : SubAck) : ∀ kv ∈ Gen.SubAck.accessors p, kv ∈ p.view := by
  simp only [Gen.SubAck.accessors, List.forall_mem_cons]
  simp only [SubAck.view, List.mem_cons, true_or, or_true, and_self, List.not_mem_nil, false_imp_iff, implies_true]

theorem subscribe_accessors (p : Subscribe) : ∀ kv ∈ Gen.Subscribe.accessors p, kv ∈ p.view := by
  simp only [Gen.Subscribe.accessors, List.forall_mem_cons]
  simp only [Subscribe.view, List.mem_cons, true_or, or_true, and_self, List.not_mem_nil, false_imp_iff, implies_true]

theorem unsubAck_accessors (p : SubAck) : ∀ kv ∈ Gen.UnsubAck.accessors p, kv ∈ p.view := subAck_accessors p

theorem unsubscribe_accessors (p : Unsubscribe) : ∀ kv ∈ Gen.Unsubscribe.accessors p, kv ∈ p.view := by
  simp only [Gen.Unsubscribe.accessors, List.forall_mem_cons]
  simp only [Unsubscribe.view, List.mem_cons, true_or, or_true, and_self, List.not_mem_nil, false_imp_iff, implies_true]

theorem undefined_accessors (p : Undefined) : ∀ kv ∈ Gen.Undefined.accessors p, kv ∈ p.view := by
  simp only [Gen.Undefined.accessors, List.forall_mem_cons]
  simp only [Undefined.view, List.mem_cons, true_or, and_self, List.not_mem_nil, false_imp_iff, implies_true]

/-- nothing exported was skipped: every setter and accessor was translated, every setter has a `SetOp` constructor -/
theorem complete : Gen.untranslatedSetters = [] ∧ Gen.unmodelledSetters = [] ∧ Gen.untranslatedAccessors = [] := by decide

end Mq.Tie.Api
