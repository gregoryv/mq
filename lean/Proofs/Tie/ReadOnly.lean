import Proofs.Tie.Basic
/-!
# Proofs.Tie.ReadOnly — `Facts.readOnlyWrites`, the stores of the read-only operations into shared memory, is empty,
and the analysis started from the operations C13 speaks of (`T5`; Proofs/Tie.lean)
-/
namespace Mq.Tie
open Mq

/-- a test that holds of `b` whenever `b == a` can be put in front of the comparison -/
theorem contains_prefilter {α β : Type} [BEq α] [LawfulBEq α] [BEq β] [ReflBEq β] (f : α → β) (l : List α) (a : α) :
    l.any (fun b => f b == f a && b == a) = l.contains a := by
  induction l with
  | nil => rfl
  | cons b l ih =>
    rw [List.any_cons, List.contains_cons, ih, Bool.beq_comm (a := a)]
    cases h : b == a
    · rw [Bool.and_false]
    · rw [eq_of_beq h, BEq.rfl, Bool.and_true]

/-- a string as a number: its bytes as digits to base 256, behind a leading 1 -/
def strKey (s : String) : Nat := s.toByteArray.data.toList.foldr (fun b n => n * 256 + b.toNat) 1

/-- the operations the effect analysis covered include `WriteTo` and `String` of all 15 types, `Dump`, the two
`WellFormed`, the three accessors that hand out a pointer or slice of the packet (`Will`, `Password`, `Payload`), and
of the decoding side `ReadPacket` and six `UnmarshalBinary`: the empty lists below are not empty for want of roots.
That `Facts.readOnlyOps` also holds the other accessors and the constructors is the extractor's word, not checked
here. -/
theorem T5_roots : ["*Connect.WriteTo", "*ConnAck.WriteTo", "*Publish.WriteTo", "*PubAck.WriteTo", "*PubRec.WriteTo",
      "*PubRel.WriteTo", "*PubComp.WriteTo", "*Subscribe.WriteTo", "*SubAck.WriteTo", "*Unsubscribe.WriteTo",
      "*UnsubAck.WriteTo", "*PingReq.WriteTo", "*PingResp.WriteTo", "*Disconnect.WriteTo", "*Auth.WriteTo",
      "*Connect.String", "*ConnAck.String", "*Publish.String", "*PubAck.String", "*PubRec.String", "*PubRel.String",
      "*PubComp.String", "*Subscribe.String", "*SubAck.String", "*Unsubscribe.String", "*UnsubAck.String",
      "*PingReq.String", "*PingResp.String", "*Disconnect.String", "*Auth.String", "*Undefined.String", "Dump",
      "*Publish.WellFormed", "*Subscribe.WellFormed", "*Connect.Will", "*Connect.Password", "*Publish.Payload",
      "ReasonCode.String", "TopicFilter.String"].all (fun n => Facts.readOnlyOps.contains n) = true
    ∧ ["ReadPacket", "*Connect.UnmarshalBinary", "*Publish.UnmarshalBinary", "*Undefined.UnmarshalBinary",
       "*SubAck.UnmarshalBinary", "*UnsubAck.UnmarshalBinary", "*Subscribe.UnmarshalBinary"].all
        (fun n => Facts.decodeOps.contains n) = true := by
  /- To compare two string literals the kernel turns both into their bytes, at every comparison anew; the number of a
  literal it computes once. So the numbers are compared first, and the strings only where those agree: some 50
  comparisons of strings instead of some 3500. -/
  simp only [← contains_prefilter strKey]
  decide +kernel

/-- no read-only operation writes to memory that is shared: everything it writes it allocated
itself or was handed as the `io.Writer` -/
theorem T5_read_only : Facts.readOnlyWrites = [] := by decide


end Mq.Tie
