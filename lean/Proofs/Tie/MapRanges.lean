import Proofs.Tie.Basic
/-!
# Proofs.Tie.MapRanges — `Facts.mapRanges`: no encoder ranges over a map with two entries (`T5`; Proofs/Tie.lean)
-/
namespace Mq.Tie
open Mq

/-- every `range` over a map on an encoding/rendering path ranges over a map literal with at most
one entry (Go's iteration order is random, so more would make the bytes depend on the run). `size` is an `Int`
because the extractor writes `-1` when the ranged expression is not a literal and its size unknown: `0 ≤` refuses
those. -/
theorem T5_map_ranges : Facts.mapRanges.all (fun m => !m.encoderPath || (0 ≤ m.size && m.size ≤ 1)) = true := by decide


end Mq.Tie
