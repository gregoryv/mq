import Mq.Generated.Ctor
/-!
# Proofs.Tie.Ctor — the constructors and the bit helpers of the source are the model's

`Mq/Generated/Ctor.lean` is regenerated on every run (extract/ctorgen.go): which `New<Type>()` exist, every field each
sets (numbers as the type checker folds them — `PUBREL | 1<<1` is 98), and `bits.Has` / `bits.toggle`, which every flag
accessor and setter goes through. Here: the model's `Packet.new` sets exactly those fields to exactly those values,
and `has`/`toggle` are the rendered functions.
-/
namespace Mq.Tie.Ctor
open Mq

def numOf (t f : String) : Option Nat :=
  (Gen.ctorNumbers.find? fun e => e.1 == t && e.2.1 == f).map (·.2.2)

theorem constructors_15 : Gen.constructors.length = 15 ∧ ∀ k : Fin 15, Packet.kindName (k.val + 1) ∈ Gen.constructors := by
  decide +kernel

theorem fixed_eq : ∀ k : Fin 15, numOf (Packet.kindName (k.val + 1)) "fixed" = some (Packet.new (k.val + 1)).fixed.toNat := by
  decide +kernel

/-- 16 = the 15 first bytes and CONNECT's protocol version: no constructor sets any other field -/
theorem others : Gen.ctorNumbers.length = 16 ∧ numOf "Connect" "protocolVersion" = some Connect.new.protocolVersion.toNat
    ∧ Gen.ctorBytes = [("Connect", "protocolName", Connect.new.protocolName)] := by
  decide +kernel

theorem has_eq : Gen.bits.has = has := rfl
theorem toggle_eq : Gen.bits.toggle = toggle := rfl

theorem willQoS_eq (p : Connect) : Gen.Connect.willQoS p.flags = p.willQoS := rfl

theorem complete : Gen.untranslatedCtor = [] := by decide

end Mq.Tie.Ctor
