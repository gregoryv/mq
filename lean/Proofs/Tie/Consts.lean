import Proofs.Tie.Basic
/-!
# Proofs.Tie.Consts — the package's constants are the model's numerals (`T3`)

`const name` is the value of the Go constant `name` in `Facts.consts`: the type nibbles, the CONNECT and header flag
masks, the two property identifiers the model names. What `T1`…`T6` stand for is said in Proofs/Tie.lean.
-/
namespace Mq.Tie
open Mq

/-- The four statements below, in one evaluation: to compare a string literal the kernel first turns it into its bytes,
which for the keys of `Facts.consts`, over a hundred, is most of the work of a lookup, and within one evaluation it does so once. -/
theorem T3_all :
    ([const "CONNECT", const "CONNACK", const "PUBLISH", const "PUBACK", const "PUBREC", const "PUBREL",
        const "PUBCOMP", const "SUBSCRIBE", const "SUBACK", const "UNSUBSCRIBE", const "UNSUBACK", const "PINGREQ",
        const "PINGRESP", const "DISCONNECT", const "AUTH"]
      = [0x10, 0x20, 0x30, 0x40, 0x50, 0x60, 0x70, 0x80, 0x90, 0xa0, 0xb0, 0xc0, 0xd0, 0xe0, 0xf0])
    ∧ ([const "Reserved", const "CleanStart", const "WillFlag", const "WillQoS1", const "WillQoS2",
        const "WillRetain", const "PasswordFlag", const "UsernameFlag"]
      = [Connect.fReserved, Connect.fCleanStart, Connect.fWillFlag, Connect.fWillQoS1, Connect.fWillQoS2,
         Connect.fWillRetain, Connect.fPassword, Connect.fUsername].map UInt8.toNat)
    ∧ [const "DUP", const "QoS1", const "QoS2", const "QoS3", const "RETAIN"] = [8, 2, 4, 6, 1]
    ∧ const "UserProperty" = 38 ∧ const "SubscriptionID" = 11 := by decide +kernel

theorem T3_types : [const "CONNECT", const "CONNACK", const "PUBLISH", const "PUBACK", const "PUBREC", const "PUBREL",
      const "PUBCOMP", const "SUBSCRIBE", const "SUBACK", const "UNSUBSCRIBE", const "UNSUBACK", const "PINGREQ",
      const "PINGRESP", const "DISCONNECT", const "AUTH"]
    = [0x10, 0x20, 0x30, 0x40, 0x50, 0x60, 0x70, 0x80, 0x90, 0xa0, 0xb0, 0xc0, 0xd0, 0xe0, 0xf0] := T3_all.1

theorem T3_connect_flags : [const "Reserved", const "CleanStart", const "WillFlag", const "WillQoS1", const "WillQoS2",
      const "WillRetain", const "PasswordFlag", const "UsernameFlag"]
    = [Connect.fReserved, Connect.fCleanStart, Connect.fWillFlag, Connect.fWillQoS1, Connect.fWillQoS2,
       Connect.fWillRetain, Connect.fPassword, Connect.fUsername].map UInt8.toNat := T3_all.2.1

theorem T3_header_flags : [const "DUP", const "QoS1", const "QoS2", const "QoS3", const "RETAIN"] = [8, 2, 4, 6, 1] := T3_all.2.2.1

theorem T3_user_property : const "UserProperty" = 38 ∧ const "SubscriptionID" = 11 := T3_all.2.2.2

end Mq.Tie
