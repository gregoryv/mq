import Mq.Generated.Wire
import Proofs.Fill
import Proofs.Tie.LengthByte
/-!
# Proofs.Tie.WireVb — the variable byte integer of the source is the model's

`vbint.UnmarshalBinary` (the in-memory decoder loop), `vbint.fill` (the encoder loop) and `vbint.width()`, rendered from
`wiretypes.go` on every run with their constants and comparison operators (extract/wiregen.go).
-/
namespace Mq.Tie.WireVb
open Mq

theorem vbint_width (n : Nat) : Gen.vbint.width n = vbWidth n := by
  show (fillVb n [] 0).2 = (encVb n).length
  exact (fillVb_sound n).dry

theorem vbint_decLoop : ∀ (d : Bytes) (m a : Nat), Gen.vbint.decLoop d m a = decVbLoop d m a := by
  intro d
  induction d with
  | nil => intro m a; rfl
  | cons b rest ih =>
    intro m a
    simp only [Gen.vbint.decLoop, decVbLoop, low7, last_byte, vbint_width, ih]

theorem vbint_dec : Gen.vbint.dec = decVb := by
  funext data
  unfold Gen.vbint.dec decVb
  cases data with
  | nil => rfl
  | cons b rest => simp [vbint_decLoop]

theorem or128 (n : Nat) (h : n < 128) : n ||| 128 = n + 128 := by
  rw [Nat.add_comm, Nat.or_comm]; exact (Nat.two_pow_add_eq_or_of_lt (i := 7) h 1).symm

theorem vbint_fillAux : ∀ (fuel x : Nat) (b : Bytes) (i : Nat), Gen.vbint.fillAux fuel x b i = fillVbAux fuel x b i := by
  intro fuel
  induction fuel with
  | zero => intro x b i; rfl
  | succ fuel ih =>
    intro x b i
    simp only [Gen.vbint.fillAux, fillVbAux, or128 _ (Nat.mod_lt x (by decide : 128 > 0)), ih]

theorem vbint_fill (v : Nat) : Gen.vbint.fill v = fillVb v := by
  funext b i; exact vbint_fillAux v v b i

theorem complete : Gen.untranslatedWireVb = [] := by decide

end Mq.Tie.WireVb
