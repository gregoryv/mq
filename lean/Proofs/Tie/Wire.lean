import Mq.Generated.Wire
/-!
# Proofs.Tie.Wire — guards, widths and zero tests of the wire types are those of the source

`Mq/Generated/Wire.lean` is regenerated on every run from `wiretypes.go` (extract/wiregen.go): for every
wire type the `fill` method (its guard `len(data) >= i+k`, what it stores, what it returns), `width()`,
the zero test at the top of `fillProp`, and `UnmarshalBinary` of the fixed-size types (its guard
`len(data) < k`, the value, the width the cursor then advances by). These are the model's, and — the
contract the two-pass encoder and `buffer.get` both rest on — **`fill(nil, 0)` returns `width()`** and
**a decoder reports the width of what it decoded**.
-/
namespace Mq.Tie.Wire
open Mq

theorem bits_fill (v : UInt8) : Gen.bits.fill v = fillByte v := rfl
theorem ident_fill (v : UInt8) : Gen.Ident.fill v = fillByte v := rfl
theorem wbool_fill (v : Bool) : Gen.wbool.fill v = fillBool v := rfl
theorem wuint16_fill (v : UInt16) : Gen.wuint16.fill v = fillU16 v := rfl
theorem wuint32_fill (v : UInt32) : Gen.wuint32.fill v = fillU32 v := rfl
theorem bindata_fill (v : Bytes) : Gen.bindata.fill v = fillBin v := rfl
theorem rawdata_fill (v : Bytes) : Gen.rawdata.fill v = fillRaw v := rfl

theorem dry_is_width :
    (∀ v, (Gen.bits.fill v).dry = Gen.bits.width v) ∧ (∀ v, (Gen.Ident.fill v).dry = Gen.Ident.width v)
    ∧ (∀ v, (Gen.wbool.fill v).dry = Gen.wbool.width v) ∧ (∀ v, (Gen.wuint16.fill v).dry = Gen.wuint16.width v)
    ∧ (∀ v, (Gen.wuint32.fill v).dry = Gen.wuint32.width v) ∧ (∀ v, (Gen.bindata.fill v).dry = Gen.bindata.width v)
    ∧ (∀ v, (Gen.rawdata.fill v).dry = Gen.rawdata.width v) ∧ (∀ v, (fillVb v).dry = Gen.vbint.width v) := by
  refine ⟨fun _ => rfl, fun _ => rfl, fun _ => rfl, fun _ => rfl, fun _ => rfl, ?_, ?_, fun _ => rfl⟩
  · intro v
    show (fillBin v [] 0).2 = 2 + v.length
    unfold fillBin
    split <;> rfl
  · intro v
    show (fillRaw v [] 0).2 = v.length
    unfold fillRaw
    split
    · rename_i h
      have : v.length = 0 := by simpa using h
      simp [this]
    · rfl

theorem isZero_eq :
    (∀ v, Gen.bits.isZero v = (WVal.u8 v).isZero) ∧ (∀ v, Gen.wuint16.isZero v = (WVal.u16 v).isZero)
    ∧ (∀ v, Gen.wuint32.isZero v = (WVal.u32 v).isZero) ∧ (∀ v, Gen.wbool.isZero v = (WVal.bool v).isZero)
    ∧ (∀ v, Gen.bindata.isZero v = (WVal.bin v).isZero) ∧ (∀ v, Gen.vbint.isZero v = (WVal.vb v).isZero) :=
  ⟨fun _ => rfl, fun _ => rfl, fun _ => rfl, fun _ => rfl, fun _ => rfl, fun _ => rfl⟩

theorem bits_dec : Gen.bits.dec = decU8 := by funext d; cases d <;> rfl
theorem ident_dec : Gen.Ident.dec = decU8 := by funext d; cases d <;> rfl
theorem wbool_dec : Gen.wbool.dec = decBool := by funext d; cases d <;> rfl

theorem wuint16_dec : Gen.wuint16.dec = decU16 := by
  funext d
  simp only [Gen.wuint16.dec, decU16, Gen.wuint16.width]
  split
  · rfl
  · rename_i h
    match d, h with
    | a :: b :: _, _ => rfl
    | [], h => simp at h
    | [_], h => simp at h

theorem wuint32_dec : Gen.wuint32.dec = decU32 := by
  funext d
  simp only [Gen.wuint32.dec, decU32, Gen.wuint32.width]
  split
  · rfl
  · rename_i h
    match d, h with
    | a :: b :: c :: e :: _, _ => rfl
    | [], h => simp at h
    | [_], h => simp at h
    | [_, _], h => simp at h
    | [_, _, _], h => simp at h

/-- every `fillProp` (seven wire types) returns 0 when it writes nothing and `i - n` — the number of bytes it wrote —
otherwise: the contract `Filler.seq` and `fillProp` of the model give it -/
theorem fillProp_tails : Gen.fillPropTails.length = 7 ∧ Gen.fillPropTails.all (fun e => e.2 == (0, true)) = true := by
  decide

theorem complete : Gen.untranslatedWire = [] := by decide

end Mq.Tie.Wire
