import Mq.Generated.Dec
import Proofs.Stages
import Proofs.Buf
/-!
# Proofs.Tie.Dec — the decoder model is the source, translated

`Mq/Generated/Dec.lean` is regenerated on every run from /repo's `UnmarshalBinary` methods and the
`propertyMap`/`willPropertyMap` literals they pass to `getAny` (extract/decgen.go): every `get`,
every `getAny` with its map (which identifier decodes into which field, with which wire type),
every condition. The theorems below say that the hand-written decoders of `Mq/Packet/*.lean` — the
ones C03, C04, C05, C09, C14, C16 are about — *are* those translations.

The property maps are compared **as maps**: the generated table keeps the source order of the
literal, the proofs go through `lookup` (on every identifier either table holds), through the effect of one
occurrence, evaluated on every occurrence the loop can record (`foldl_known`), and through congruence lemmas for the
property loop — so reordering the entries of a map literal, which means nothing in Go, breaks nothing here.

Four idioms are matched on their exact source text (up to the names of their local variables) and
carried by hand-written stages (`Mq/Stage.lean`): the CONNECT will block, the SUBSCRIBE and
UNSUBSCRIBE filter loops, the SUBACK/UNSUBACK reason-code loop (plus the copy in `Undefined`). For
those the tie is: the source reads as the text the stage was written from.
-/
namespace Mq.Tie.Dec
open Mq

/-- the loop looks at its table and at the old content only through `propDec` (`getAnyLoop_succ`) -/
theorem getAnyLoop_congr (t1 t2 : PropTable) (o1 o2 : UInt8 → List PropOcc → Bytes)
    (h : ∀ id acc, propDec t1 o1 id acc = propDec t2 o2 id acc) (n0 plen : Nat) :
    ∀ fuel b acc, getAnyLoop t1 o1 n0 plen fuel b acc = getAnyLoop t2 o2 n0 plen fuel b acc
  | 0, _, _ => rfl
  | fuel + 1, b, acc => by
    simp only [getAnyLoop_succ, h, getAnyLoop_congr t1 t2 o1 o2 h n0 plen fuel]

theorem propDec_congr (t1 t2 : PropTable) (o1 o2 : UInt8 → List PropOcc → Bytes)
    (ht : ∀ id, t1.lookup id = t2.lookup id)
    (h : ∀ id acc, t1.lookup id = some .bin → o1 id acc = o2 id acc) (id : UInt8) (acc : List PropOcc) :
    propDec t1 o1 id acc = propDec t2 o2 id acc := by
  unfold propDec
  rw [← ht id]
  cases hl : t1.lookup id with
  | none => rfl
  | some k => cases k <;> first | rfl | simp only [decK, h id acc hl]

theorem getAny_congr (b : Buf) (t1 t2 : PropTable) (o1 o2 : UInt8 → List PropOcc → Bytes)
    (ht : ∀ id, t1.lookup id = t2.lookup id)
    (h : ∀ id acc, t1.lookup id = some .bin → o1 id acc = o2 id acc) : b.getAny t1 o1 = b.getAny t2 o2 := by
  unfold Buf.getAny
  split
  · rfl
  · simp only [getAnyLoop_congr t1 t2 o1 o2 (propDec_congr t1 t2 o1 o2 ht h)]

theorem lookup_ext {α β} [BEq α] [LawfulBEq α] (t1 t2 : List (α × β))
    (h : ∀ p ∈ t1 ++ t2, t1.lookup p.1 = t2.lookup p.1) (k : α) : t1.lookup k = t2.lookup k := by
  by_cases hk : ∃ p ∈ t1 ++ t2, k = p.1
  · obtain ⟨p, hp, rfl⟩ := hk; exact h p hp
  · have hn : ∀ t : List (α × β), (∀ p ∈ t, p ∈ t1 ++ t2) → t.lookup k = none := fun t ht =>
      List.lookup_eq_none_iff.mpr fun p hp => bne_iff_ne.mpr fun e => hk ⟨p, ht p hp, e⟩
    rw [hn t1 fun p hp => List.mem_append_left _ hp, hn t2 fun p hp => List.mem_append_right _ hp]

def bins (t : PropTable) : PropTable := t.filter (·.2 == .bin)

theorem mem_bins {t : PropTable} {id : UInt8} (h : t.lookup id = some .bin) : (id, WKind.bin) ∈ bins t := by
  obtain ⟨l₁, l₂, e, _⟩ := List.lookup_eq_some_iff.mp h
  exact List.mem_filter.mpr ⟨e ▸ by simp, rfl⟩

/-- Two `apply` functions that store alike every occurrence `getAny` can record with table `t` (`getAny_known`) fold alike over
what it did record. `ha` is one equation between two lists — one value of every kind (`WVal.Any`) per identifier the table
knows, both functions evaluated on each —, so that for concrete functions it holds by evaluation, whatever the order of the
entries in the Go map literal, which the rendering keeps. -/
theorem foldl_known {α : Type} {t : PropTable} {a1 a2 : α → PropOcc → α}
    (ha : ∀ (u : WVal.Any) p, t.known.map (fun e => a1 p ⟨e.1, u.pick e.2⟩) = t.known.map (fun e => a2 p ⟨e.1, u.pick e.2⟩))
    (b : Buf) (oldOf : UInt8 → List PropOcc → Bytes) (p : α) :
    (b.getAny t oldOf).2.foldl a1 p = (b.getAny t oldOf).2.foldl a2 p :=
  foldl_fusion a1 a2 id _ (fun o ho p => PropTable.known_elim (C := fun o => a1 p o = a2 p o)
    (fun e he u => List.map_inj_left.mp (ha u p) e he) (getAny_known b t oldOf o ho)) p

/-- `ho` (the string destinations hold the same old content) is one equation between two lists as well. -/
theorem props_eq {α : Type} {t1 t2 : PropTable} {o1 o2 : α → UInt8 → List PropOcc → Bytes} {a1 a2 : α → PropOcc → α}
    (ht : ∀ e ∈ t1 ++ t2, t1.lookup e.1 = t2.lookup e.1)
    (ho : ∀ p acc, (bins t1).map (fun e => o1 p e.1 acc) = (bins t1).map (fun e => o2 p e.1 acc))
    (ha : ∀ (u : WVal.Any) p, t1.known.map (fun e => a1 p ⟨e.1, u.pick e.2⟩) = t1.known.map (fun e => a2 p ⟨e.1, u.pick e.2⟩)) :
    Stage.props t1 o1 a1 = Stage.props t2 o2 a2 := by
  funext s
  have hg := getAny_congr s.1 t1 t2 (o1 s.2) (o2 s.2) (lookup_ext t1 t2 ht) fun id acc h =>
    List.map_inj_left.mp (ho s.2 acc) _ (mem_bins h)
  simp only [Stage.props, ← hg, foldl_known ha]

theorem willBlock_congr (t1 t2 : PropTable) (a1 a2 : UInt32 × Publish → PropOcc → UInt32 × Publish)
    (ht : ∀ e ∈ t1 ++ t2, t1.lookup e.1 = t2.lookup e.1)
    (ha : ∀ (u : WVal.Any) s, t1.known.map (fun e => a1 s ⟨e.1, u.pick e.2⟩) = t1.known.map (fun e => a2 s ⟨e.1, u.pick e.2⟩)) :
    Connect.willBlock t1 a1 = Connect.willBlock t2 a2 := by
  funext s
  have hg := getAny_congr s.1 t1 t2 (lastBin fun _ => []) (lastBin fun _ => []) (lookup_ext t1 t2 ht) (fun _ _ _ => rfl)
  simp only [Connect.willBlock, ← hg, foldl_known ha]

theorem connect_props :
    Stage.props Gen.Connect.propertyMap.table (fun p => lastBin (Gen.Connect.propertyMap.binInit p)) Gen.Connect.propertyMap.apply
      = Stage.props Connect.table (fun p => lastBin p.binInit) Connect.applyOcc :=
  props_eq (by decide +kernel) (fun _ _ => rfl) fun _ _ => rfl

theorem connAck_props :
    Stage.props Gen.ConnAck.propertyMap.table (fun p => lastBin (Gen.ConnAck.propertyMap.binInit p)) Gen.ConnAck.propertyMap.apply
      = Stage.props ConnAck.table (fun p => lastBin p.binInit) ConnAck.applyOcc :=
  props_eq (by decide +kernel) (fun _ _ => rfl) fun _ _ => rfl

theorem publish_props :
    Stage.props Gen.Publish.propertyMap.table (fun p => lastBin (Gen.Publish.propertyMap.binInit p)) Gen.Publish.propertyMap.apply
      = Stage.props Publish.table (fun p => lastBin p.binInit) Publish.applyOcc :=
  props_eq (by decide +kernel) (fun _ _ => rfl) fun _ _ => rfl

theorem disconnect_props :
    Stage.props Gen.Disconnect.propertyMap.table (fun p => lastBin (Gen.Disconnect.propertyMap.binInit p)) Gen.Disconnect.propertyMap.apply
      = Stage.props Disconnect.table (fun p => lastBin p.binInit) Disconnect.applyOcc :=
  props_eq (by decide +kernel) (fun _ _ => rfl) fun _ _ => rfl

theorem auth_props :
    Stage.props Gen.Auth.propertyMap.table (fun p => lastBin (Gen.Auth.propertyMap.binInit p)) Gen.Auth.propertyMap.apply
      = Stage.props Auth.table (fun p => lastBin p.binInit) Auth.applyOcc :=
  props_eq (by decide +kernel) (fun _ _ => rfl) fun _ _ => rfl

theorem pubAck_props :
    Stage.props Gen.PubAck.propertyMap.table (fun p => lastBin (Gen.PubAck.propertyMap.binInit p)) Gen.PubAck.propertyMap.apply
      = Stage.props Ack.table (fun p => lastBin fun _ => p.reason) Ack.applyOcc :=
  props_eq (by decide +kernel) (fun _ _ => rfl) fun _ _ => rfl

theorem subAck_props :
    Stage.props Gen.SubAck.propertyMap.table (fun p => lastBin (Gen.SubAck.propertyMap.binInit p)) Gen.SubAck.propertyMap.apply
      = Stage.props SubAck.table (fun p => lastBin fun _ => p.reasonString) SubAck.applyOcc :=
  props_eq (by decide +kernel) (fun _ _ => rfl) fun _ _ => rfl

theorem subscribe_props :
    Stage.props Gen.Subscribe.propertyMap.table (fun p => lastBin (Gen.Subscribe.propertyMap.binInit p)) Gen.Subscribe.propertyMap.apply
      = Stage.props Subscribe.table (fun _ => noOld) Subscribe.applyOcc :=
  props_eq (by decide +kernel) (fun _ _ => rfl) fun _ _ => rfl

theorem unsubscribe_props :
    Stage.props Gen.Unsubscribe.nil.table (fun p => lastBin (Gen.Unsubscribe.nil.binInit p)) Gen.Unsubscribe.nil.apply
      = Stage.props [] (fun _ => noOld) Unsubscribe.applyOcc :=
  props_eq (by decide +kernel) (fun _ _ => rfl) fun _ _ => rfl

theorem connect_willBlock :
    Connect.willBlock Gen.Connect.willPropertyMap.table Gen.Connect.willPropertyMap.apply
      = Connect.willBlock Connect.willTable Connect.applyWillOcc :=
  willBlock_congr _ _ _ _ (by decide +kernel) fun _ _ => rfl

/-! Once its property map is rewritten to the model's, a translated decoder is the model's stage list (`Proofs/Stages.lean`)
entry for entry. -/

theorem connack_unmarshal (p : ConnAck) (data : Bytes) : Gen.ConnAck.unmarshal p data = p.unmarshal data := by
  rw [ConnAck.unmarshal_eq_run, Gen.ConnAck.unmarshal, connAck_props]; rfl

theorem disconnect_unmarshal (p : Disconnect) (data : Bytes) : Gen.Disconnect.unmarshal p data = p.unmarshal data := by
  rw [Disconnect.unmarshal_eq_run, Gen.Disconnect.unmarshal, disconnect_props]; rfl

theorem auth_unmarshal (p : Auth) (data : Bytes) : Gen.Auth.unmarshal p data = p.unmarshal data := by
  rw [Auth.unmarshal_eq_run, Gen.Auth.unmarshal, auth_props]; rfl

theorem pingreq_unmarshal (p : Ping) (data : Bytes) : Gen.PingReq.unmarshal p data = p.unmarshal data := rfl
theorem pingresp_unmarshal (p : Ping) (data : Bytes) : Gen.PingResp.unmarshal p data = p.unmarshal data := rfl
theorem undefined_unmarshal (p : Undefined) (data : Bytes) : Gen.Undefined.unmarshal p data = p.unmarshal data := rfl

theorem publish_unmarshal (p : Publish) (data : Bytes) : Gen.Publish.unmarshal p data = p.unmarshal data := by
  rw [Publish.unmarshal_eq_run, Gen.Publish.unmarshal, publish_props]; rfl

theorem pubAck_unmarshal (p : Ack) (data : Bytes) : Gen.PubAck.unmarshal p data = p.unmarshal data := by
  rw [Ack.unmarshal_eq_run, Gen.PubAck.unmarshal, pubAck_props]; rfl

/- PUBREC, PUBREL and PUBCOMP are decoded by PUBACK's text word for word, property map included (UNSUBACK by SUBACK's),
so their translations are the same functions by definition. -/
theorem pubRec_unmarshal (p : Ack) (data : Bytes) : Gen.PubRec.unmarshal p data = p.unmarshal data := pubAck_unmarshal p data
theorem pubRel_unmarshal (p : Ack) (data : Bytes) : Gen.PubRel.unmarshal p data = p.unmarshal data := pubAck_unmarshal p data
theorem pubComp_unmarshal (p : Ack) (data : Bytes) : Gen.PubComp.unmarshal p data = p.unmarshal data := pubAck_unmarshal p data

theorem subAck_unmarshal (p : SubAck) (data : Bytes) : Gen.SubAck.unmarshal p data = p.unmarshal data := by
  rw [SubAck.unmarshal_eq_run, Gen.SubAck.unmarshal, subAck_props]; rfl

theorem unsubAck_unmarshal (p : SubAck) (data : Bytes) : Gen.UnsubAck.unmarshal p data = p.unmarshal data := subAck_unmarshal p data

theorem subscribe_unmarshal (p : Subscribe) (data : Bytes) : Gen.Subscribe.unmarshal p data = p.unmarshal data := by
  rw [Subscribe.unmarshal_eq_run, Gen.Subscribe.unmarshal, subscribe_props]; rfl

theorem unsubscribe_unmarshal (p : Unsubscribe) (data : Bytes) : Gen.Unsubscribe.unmarshal p data = p.unmarshal data := by
  rw [Unsubscribe.unmarshal_eq_run, Gen.Unsubscribe.unmarshal, unsubscribe_props]; rfl

theorem connect_unmarshal (p : Connect) (data : Bytes) : Gen.Connect.unmarshal p data = p.unmarshal data := by
  rw [Connect.unmarshal_eq_run, Gen.Connect.unmarshal, connect_props, connect_willBlock]; rfl

theorem connect_propsStage (s : Buf × Connect) :
    Stage.props Connect.table (fun p => lastBin p.binInit) Connect.applyOcc s = s.2.readProps s.1 := rfl

theorem connect_clientID (s : Buf × Connect) :
    Stage.get (fun p => decBin p.clientID) (·.clientID) (fun p v => { p with clientID := v }) s = s.2.readClientID s.1 := rfl

theorem seq_cons {α : Type} (f : Stage α) (fs : List (Stage α)) (s : Buf × α) : Stage.seq (f :: fs) s = Stage.seq fs (f s) :=
  Stage.seq_cons f fs s
theorem seq_nil {α : Type} (s : Buf × α) : Stage.seq ([] : List (Stage α)) s = s := rfl

/-- 16 = the fifteen packet types and `Undefined`: no `UnmarshalBinary` was left untranslated -/
theorem all_translated : Gen.translatedDecoders.length = 16 := by decide

end Mq.Tie.Dec
