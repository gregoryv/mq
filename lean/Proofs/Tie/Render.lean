import Proofs.Tie.Basic
/-!
# Proofs.Tie.Render — the stringer's name and index arrays and `typeNames` are the tables of `Mq/Render.lean` (`T4`)

`Facts.reasonCodeNames`/`reasonCodeIndex` are the generated `_ReasonCode_name_i`/`_ReasonCode_index_i` of
reasoncode_string.go, which `reasonCodeStr` slices (`T1`…`T6`: Proofs/Tie.lean).
-/
namespace Mq.Tie
open Mq

def rcNames (n : String) : List UInt8 := (Facts.reasonCodeNames.lookup n).getD []
def rcIdx (n : String) : List Nat := (Facts.reasonCodeIndex.lookup n).getD []

theorem T4_reason_names : rcNames "_ReasonCode_name_0" = rcName0 ∧ rcNames "_ReasonCode_name_1" = rcName1
    ∧ rcNames "_ReasonCode_name_2" = rcName2 ∧ rcNames "_ReasonCode_name_3" = rcName3
    ∧ rcNames "_ReasonCode_name_4" = rcName4a ++ rcName4b ++ rcName4c := by decide +kernel

theorem T4_reason_index : rcIdx "_ReasonCode_index_0" = rcIndex0 ∧ rcIdx "_ReasonCode_index_2" = rcIndex2
    ∧ rcIdx "_ReasonCode_index_3" = rcIndex3 ∧ rcIdx "_ReasonCode_index_4" = rcIndex4 := by decide +kernel

theorem T4_type_names : ∀ n : Fin 16, (Facts.typeNames.lookup (n.val * 16)) = some (typeName (UInt8.ofNat (n.val * 16))) := by
  decide +kernel


end Mq.Tie
