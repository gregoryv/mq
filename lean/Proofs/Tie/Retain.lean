import Proofs.Tie.Basic
/-!
# Proofs.Tie.Retain — `Facts.decodeRetains`, the places where a decoder keeps a slice of its input, is empty (`T5`;
Proofs/Tie.lean)
-/
namespace Mq.Tie
open Mq

/-- no decoder stores (a slice of) its input where it outlives the call -/
theorem T5_no_retain : Facts.decodeRetains = [] := by decide


end Mq.Tie
