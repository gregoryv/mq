/-!
# Proofs.Tie.LengthByte — a byte of a variable byte integer, in the source's spelling and in the model's

The source takes it apart with `&&& 127` and `&&& 128 = 0`, the model with `% 128` and `< 128`. With these two
equations the source's length loops (`Tie.WireVb`, `Tie.Stream`) read as the model's. No generated file is imported:
either family stays available when the other is not.
-/
namespace Mq.Tie

theorem low7 (b : UInt8) : b.toNat &&& 127 = b.toNat % 128 := Nat.and_two_pow_sub_one_eq_mod _ 7

theorem last_byte (b : UInt8) : (b.toNat &&& 128 = 0) = (b.toNat < 128) :=
  propext ((by decide +kernel : ∀ n, n < 256 → (n &&& 128 = 0 ↔ n < 128)) _ b.toNat_lt)

end Mq.Tie
