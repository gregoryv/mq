import Mq.Generated.Enc
import Mq.Fill
/-!
# Proofs.Tie.Enc — the encoder model is the source, translated

`Mq/Generated/Enc.lean` is regenerated on every run from /repo's `fill`, `variableHeader`,
`payload` and `properties` methods (extract/encgen.go), statement by statement, into the `Filler`
combinators. The theorems below say that the hand-written fillers of `Mq/Fill.lean` — the ones
`Proofs/Fill*.lean` prove sound against `Packet.encode`, and so the ones every encoder theorem
(C01, C02, C10, C12, C19) is about — *are* those translations. A change to the order of fields, a
dropped or added field, another flag constant, another condition or another length computation in
the Go encoder changes the generated definition and breaks the corresponding `rfl`.

CONNECT: `payload` dereferences `p.will` inside `if p.flags.Has(WillFlag)`; the translation takes
the will message as a parameter and the statement is by cases (flag clear: any `will`; will
attached: that will). The remaining case — flag set without a will — is the nil dereference the
hand model marks `none` (panic); it is outside the translated fragment and tied by the
correspondence run only.
-/
namespace Mq.Tie.Enc
open Mq

theorem seq_nop (f : Filler) : f.seq Filler.nop = f := by
  funext b i; simp [Filler.seq, Filler.nop]

/-- a `payload` that is one loop is translated as a sequence of one statement -/
theorem seqs_singleton (f : Filler) : Filler.seqs [f] = f := seq_nop f

theorem auth_properties (p : Auth) : Gen.Auth.properties p = p.propertiesG := rfl
theorem auth_variableHeader (p : Auth) : Gen.Auth.variableHeader p = p.variableHeaderG := rfl
theorem auth_fill (p : Auth) : Gen.Auth.fill p = p.fillG := rfl

theorem disconnect_properties (p : Disconnect) : Gen.Disconnect.properties p = p.propertiesG := rfl
theorem disconnect_variableHeader (p : Disconnect) : Gen.Disconnect.variableHeader p = p.variableHeaderG := rfl
theorem disconnect_fill (p : Disconnect) : Gen.Disconnect.fill p = p.fillG := rfl

theorem connack_properties (p : ConnAck) : Gen.ConnAck.properties p = p.propertiesG := rfl
theorem connack_variableHeader (p : ConnAck) : Gen.ConnAck.variableHeader p = p.variableHeaderG := rfl
theorem connack_fill (p : ConnAck) : Gen.ConnAck.fill p = p.fillG := rfl

theorem pingreq_fill (p : Ping) : Gen.PingReq.fill p = p.fillG := rfl
theorem pingresp_fill (p : Ping) : Gen.PingResp.fill p = p.fillG := rfl

theorem topicFilter_fill (f : TopicFilter) : Gen.TopicFilter.fill f = f.fillG := rfl

theorem pubAck_properties (p : Ack) : Gen.PubAck.properties p = p.propertiesG := rfl
theorem pubAck_variableHeader (p : Ack) : Gen.PubAck.variableHeader p = p.variableHeaderG := by
  funext b i
  simp only [Gen.PubAck.variableHeader, Ack.variableHeaderG, pubAck_properties, Filler.seqs, seq_nop]
  rfl
theorem pubAck_fill (p : Ack) : Gen.PubAck.fill p = p.fillG := by
  funext b i
  simp only [Gen.PubAck.fill, Ack.fillG, fillFrame, pubAck_variableHeader]

/- PUBREC, PUBREL and PUBCOMP are encoded by PUBACK's text word for word (UNSUBACK by SUBACK's), so their
translations are the same functions by definition. -/
theorem pubRec_properties (p : Ack) : Gen.PubRec.properties p = p.propertiesG := rfl
theorem pubRec_fill (p : Ack) : Gen.PubRec.fill p = p.fillG := pubAck_fill p

theorem pubRel_properties (p : Ack) : Gen.PubRel.properties p = p.propertiesG := rfl
theorem pubRel_fill (p : Ack) : Gen.PubRel.fill p = p.fillG := pubAck_fill p

theorem pubComp_properties (p : Ack) : Gen.PubComp.properties p = p.propertiesG := rfl
theorem pubComp_fill (p : Ack) : Gen.PubComp.fill p = p.fillG := pubAck_fill p

theorem subAck_properties (p : SubAck) : Gen.SubAck.properties p = p.propertiesG := rfl
theorem subAck_variableHeader (p : SubAck) : Gen.SubAck.variableHeader p = p.variableHeaderG := rfl
theorem subAck_payload (p : SubAck) : Gen.SubAck.payload p = p.payloadG := seqs_singleton _
theorem subAck_fill (p : SubAck) : Gen.SubAck.fill p = p.fillG := by
  funext b i
  simp only [Gen.SubAck.fill, SubAck.fillG, subAck_variableHeader, subAck_payload]

theorem unsubAck_properties (p : SubAck) : Gen.UnsubAck.properties p = p.propertiesG := rfl
theorem unsubAck_variableHeader (p : SubAck) : Gen.UnsubAck.variableHeader p = p.variableHeaderG := rfl
theorem unsubAck_fill (p : SubAck) : Gen.UnsubAck.fill p = p.fillG := subAck_fill p

theorem subscribe_properties (p : Subscribe) : Gen.Subscribe.properties p = p.propertiesG := rfl
theorem subscribe_variableHeader (p : Subscribe) : Gen.Subscribe.variableHeader p = p.variableHeaderG := rfl
theorem subscribe_payload (p : Subscribe) : Gen.Subscribe.payload p = p.payloadG := seqs_singleton _
theorem subscribe_fill (p : Subscribe) : Gen.Subscribe.fill p = p.fillG := by
  funext b i
  simp only [Gen.Subscribe.fill, Subscribe.fillG, subscribe_variableHeader, subscribe_payload]

theorem unsubscribe_variableHeader (p : Unsubscribe) : Gen.Unsubscribe.variableHeader p = p.variableHeaderG := rfl
theorem unsubscribe_payload (p : Unsubscribe) : Gen.Unsubscribe.payload p = p.payloadG := seqs_singleton _
theorem unsubscribe_fill (p : Unsubscribe) : Gen.Unsubscribe.fill p = p.fillG := by
  funext b i
  simp only [Gen.Unsubscribe.fill, Unsubscribe.fillG, unsubscribe_variableHeader, unsubscribe_payload]

theorem publish_properties (p : Publish) : Gen.Publish.properties p = p.propertiesG := rfl
theorem publish_variableHeader (p : Publish) : Gen.Publish.variableHeader p = p.variableHeaderG := by
  funext b i
  have : (p.qos = 1 ∨ p.qos = 2) ↔ p.hasPacketID = true := by simp [Publish.hasPacketID]
  simp only [Gen.Publish.variableHeader, Publish.variableHeaderG, publish_properties, this]
theorem publish_fill (p : Publish) : Gen.Publish.fill p = p.fillG := by
  funext b i
  simp only [Gen.Publish.fill, Publish.fillG, publish_variableHeader]

theorem connect_properties (p : Connect) : Gen.Connect.properties p = p.propertiesG := rfl
theorem connect_variableHeader (p : Connect) : Gen.Connect.variableHeader p = p.variableHeaderG := rfl

/-- `w` is the will the translation takes as a parameter: the one attached, or any when the flag is clear -/
theorem connect_payload (p : Connect) (w : Publish) (h : p.will = some w ∨ has p.flags Connect.fWillFlag = false) :
    p.payloadG? = some (Gen.Connect.payload p w) := by
  have hf4 : has p.flags 4 = has p.flags Connect.fWillFlag := rfl
  cases hf : has p.flags Connect.fWillFlag
  · simp only [Connect.payloadG?, hf, Bool.false_eq_true, if_false, Option.map_some, Option.some.injEq]
    funext b i
    simp only [Gen.Connect.payload, hf4, hf, Bool.false_eq_true, if_false]
    rfl
  · have hw : p.will = some w := h.resolve_right (by simp [hf])
    simp only [Connect.payloadG?, hw, hf, if_true, Option.map_some, Option.some.injEq]
    funext b i
    simp only [Gen.Connect.payload, hf4, hf, if_true]
    rfl

theorem connect_fill (p : Connect) (w : Publish) (h : p.will = some w ∨ has p.flags Connect.fWillFlag = false) :
    p.fillG? = some (Gen.Connect.fill p w) := by
  simp only [Connect.fillG?, connect_payload p w h, Option.map_some]
  rfl

theorem connect_fill_will (p : Connect) (w : Publish) (h : p.will = some w) : p.fillG? = some (Gen.Connect.fill p w) :=
  connect_fill p w (.inl h)

theorem connect_fill_noflag (p : Connect) (w : Publish) (h : has p.flags Connect.fWillFlag = false) :
    p.fillG? = some (Gen.Connect.fill p w) :=
  connect_fill p w (.inr h)

/-- 46 = every `fill`, `variableHeader`, `payload` and `properties` method of the fifteen packet types and of
`TopicFilter`: none was left untranslated -/
theorem all_translated : Gen.translated.length = 46 := by decide

end Mq.Tie.Enc
