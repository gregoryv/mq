import Proofs.ReadPacket
/-!
# Proofs.FrameRead — ReadPacket on a complete frame, on a sequence of frames, on a cut frame
-/
namespace Mq

theorem purePacket_frame (b0 : UInt8) (body rest : Bytes) (hn : body.length < 268435456) (fail : IOErr) :
    purePacket (frameBytes b0 body ++ rest) fail = (frameOutcome b0 body, rest) := by
  rw [frameBytes, List.cons_append, List.append_assoc, purePacket_cons, pureVb_enc _ hn]
  simp only [List.length_append, Nat.le_add_right, if_true, List.take_left, List.drop_left]

theorem readPacket_frame (r : Reader) (b0 : UInt8) (body rest : Bytes) (hn : body.length < 268435456)
    (hd : r.data = frameBytes b0 body ++ rest) :
    (readPacket r).1 = frameOutcome b0 body ∧ (readPacket r).2.data = rest := by
  rw [readPacket_fst, readPacket_data, hd, purePacket_frame b0 body rest hn]
  exact ⟨rfl, rfl⟩

theorem purePacket_cut (b0 : UInt8) (body : Bytes) (hn : body.length < 268435456) (fail : IOErr) (k : Nat)
    (hk : k < (frameBytes b0 body).length) :
    ∃ got, (purePacket ((frameBytes b0 body).take k) fail).1 = .err (.io (shortErr fail got)) := by
  unfold frameBytes at hk ⊢
  cases k with
  | zero => exact ⟨[], by simp [purePacket]⟩
  | succ j =>
    rw [List.take_succ_cons, purePacket_cons]
    by_cases hj : j < (encVb body.length).length
    · rw [List.take_append_of_le_length (Nat.le_of_lt hj), pureVb_prefix _ hn fail j hj]
      exact ⟨[], rfl⟩
    · simp only [List.length_cons, List.length_append] at hk
      have hshort : ¬ body.length ≤ (body.take (j - (encVb body.length).length)).length := by
        rw [List.length_take]; omega
      rw [List.take_append, List.take_of_length_le (Nat.le_of_not_lt hj), pureVb_enc _ hn]
      simp only [hshort, if_false]
      exact ⟨_, rfl⟩

/-- on a stream with nothing left `ReadPacket` passes on how the reader ends -/
theorem readPacket_nil (r : Reader) (hd : r.data = []) : (readPacket r).1 = .err (.io (shortErr r.fail [])) := by
  rw [readPacket_fst, hd]; rfl

/-- `k` successive calls of `ReadPacket` on one reader: their results in order, and the reader they leave -/
def readAll : Nat → Reader → List RP × Reader
  | 0, r => ([], r)
  | k + 1, r =>
    let x := readPacket r
    let rest := readAll k x.2
    (x.1 :: rest.1, rest.2)

/-- Successive calls over a concatenation of segments each of which one call answers (`out x`) and consumes exactly, whatever
follows it: the calls return the segments' answers in order and leave what follows the last. What every session-level
theorem rests on. -/
theorem readAll_chain {α : Type} (seg : α → Bytes) (out : α → RP) :
    ∀ (xs : List α) (r : Reader) (tail : Bytes),
    (∀ x ∈ xs, ∀ (r : Reader) (rest : Bytes), r.data = seg x ++ rest →
      (readPacket r).1 = out x ∧ (readPacket r).2.data = rest) →
    r.data = xs.flatMap seg ++ tail →
    (readAll xs.length r).1 = xs.map out ∧ (readAll xs.length r).2.data = tail
      ∧ (readAll xs.length r).2.fail = r.fail
  | [], r, tail, _, hd => ⟨rfl, by simpa [readAll] using hd, rfl⟩
  | x :: xs, r, tail, h, hd => by
    have h1 := h x List.mem_cons_self r (xs.flatMap seg ++ tail) (by simpa using hd)
    have h2 := readAll_chain seg out xs (readPacket r).2 tail (fun y hy => h y (List.mem_cons_of_mem _ hy)) h1.2
    simp only [List.length_cons, readAll, List.map_cons]
    exact ⟨by rw [h1.1, h2.1], h2.2.1, by rw [h2.2.2, readPacket_fail r]⟩

theorem readAll_frames : ∀ (fs : List (UInt8 × Bytes)) (r : Reader) (tail : Bytes),
    (∀ f ∈ fs, f.2.length < 268435456) →
    r.data = fs.flatMap (fun f => frameBytes f.1 f.2) ++ tail →
    (readAll fs.length r).1 = fs.map (fun f => frameOutcome f.1 f.2)
      ∧ (readAll fs.length r).2.data = tail ∧ (readAll fs.length r).2.fail = r.fail :=
  fun fs r tail hall hd => readAll_chain (fun f => frameBytes f.1 f.2) _ fs r tail
    (fun f hf r rest hd => readPacket_frame r f.1 f.2 rest (hall f hf) hd) hd

end Mq
