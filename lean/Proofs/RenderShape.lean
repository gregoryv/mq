import Mq.Render
/-!
# Proofs.RenderShape — what the two wrappers of `String()` add to the plain rendering: only a suffix
-/
namespace Mq

/-- the suffix `withForm` appends -/
def malformedSuffix : WF → Bytes
  | none => []
  | some (ref, reason) => b!", malformed! " ++ sb reason ++ b!" " ++ sb ref

theorem withForm_eq (wf : WF) (v : Bytes) : withForm wf v = v ++ malformedSuffix wf := by
  cases wf with
  | none => simp [withForm, malformedSuffix]
  | some rr => obtain ⟨ref, reason⟩ := rr; simp [withForm, malformedSuffix, List.append_assoc]

theorem malformedSuffix_nil (wf : WF) : malformedSuffix wf = [] ↔ wf = none := by
  cases wf with
  | none => simp [malformedSuffix]
  | some rr =>
    obtain ⟨ref, reason⟩ := rr
    simp only [malformedSuffix, reduceCtorEq, iff_false]
    intro h
    have hne : b!", malformed! " ≠ [] := by decide
    simp only [List.append_eq_nil_iff] at h
    exact hne h.1.1.1

theorem bind_eq_ok {r : Rend} {f : Bytes → Rend} {t : Bytes} (h : r.bind f = .ok t) : ∃ c, r = .ok c ∧ f c = .ok t := by
  cases r with
  | ok c => exact ⟨c, rfl, h⟩
  | unmodelled => cases h
  | panic => cases h

theorem withReason_shape (c : UInt8) (r : Option Bytes) (v t : Bytes) (h : withReason c r v = .ok t) : ∃ suf, t = v ++ suf := by
  unfold withReason at h
  split at h
  · obtain ⟨cs, -, h⟩ := bind_eq_ok h
    cases r with
    | none => exact ⟨b!" " ++ cs ++ b!"!", by rw [← Rend.ok.inj h]; simp⟩
    | some r =>
      simp only [] at h
      split at h
      · exact ⟨b!" " ++ cs ++ b!"! " ++ r, by rw [← Rend.ok.inj h]; simp⟩
      · exact ⟨b!" " ++ cs ++ b!"!", by rw [← Rend.ok.inj h]; simp⟩
  · exact ⟨[], by rw [← Rend.ok.inj h, List.append_nil]⟩

end Mq
