import Mq.Stage
import Proofs.ApplyOcc
/-!
# Proofs.Stages — every `UnmarshalBinary` of the model as a list of stages

The model writes each decoder as one function, in the shape of the Go method. Here the same decoder is the list of
its statements over the combinators of `Mq/Stage.lean`, and `T.unmarshal_eq_run` says the two agree. What holds of
every `get`, `getAny` and `if`, and is kept by sequencing — safety, the sticky failure, the fields a stage leaves
alone, what a stage does on the encoding of its field and on a cut of it — is then proved once about the combinators
and instantiated by walking the list.

Also here, being about stage lists as such: `Stage.All` (a predicate on every stage of a list), `Stage.Keeps` (a field
the stages leave alone) with its lemma per combinator, and `LoopEq`, the shape the two filter loops share.
-/
namespace Mq

namespace Stage
variable {α : Type}

theorem seq_cons (s : Stage α) (ss : List (Stage α)) (x : Buf × α) : seq (s :: ss) x = seq ss (s x) := rfl

theorem seq_append (ss ts : List (Stage α)) (x : Buf × α) : seq (ss ++ ts) x = seq ts (seq ss x) := List.foldl_append

theorem when_pos {c : Buf × α → Prop} [∀ s, Decidable (c s)] {body : List (Stage α)} {x : Buf × α} (hc : c x) :
    when c body x = seq body x := if_pos hc

theorem when_neg {c : Buf × α → Prop} [∀ s, Decidable (c s)] {body : List (Stage α)} {x : Buf × α} (hc : ¬ c x) :
    when c body x = x := if_neg hc

/-- `P` of every stage, by recursion on the list: for a list written out it is the conjunction, closed by `True` -/
def All (P : Stage α → Prop) : List (Stage α) → Prop
  | [] => True
  | s :: ss => P s ∧ All P ss

def Keeps {β : Type} (g : α → β) (s : Stage α) : Prop := ∀ x, g (s x).2 = g x.2

theorem Keeps.seq {β : Type} {g : α → β} : ∀ {ss : List (Stage α)}, All (Keeps g) ss → Keeps g (seq ss)
  | [], _, _ => rfl
  | _ :: _, h, x => (Keeps.seq h.2 _).trans (h.1 x)

theorem Keeps.get {β γ : Type} {g : α → γ} {dec : α → Dec β} {rd : α → β} {wr : α → β → α}
    (hw : ∀ p v, g (wr p v) = g p) : Keeps g (get dec rd wr) := fun x => hw x.2 _

theorem Keeps.props {γ : Type} {g : α → γ} {tbl : PropTable} {oldOf : α → UInt8 → List PropOcc → Bytes}
    {apply : α → PropOcc → α} (h : ∀ p o, g (apply p o) = g p) : Keeps g (props tbl oldOf apply) :=
  fun x => foldl_same h _ x.2

theorem Keeps.when {γ : Type} {g : α → γ} {c : Buf × α → Prop} [∀ s, Decidable (c s)] {body : List (Stage α)}
    (h : All (Keeps g) body) : Keeps g (when c body) := fun x => by
  unfold Stage.when
  split
  · exact Keeps.seq h x
  · rfl

theorem Keeps.run {γ : Type} {g : α → γ} {ss : List (Stage α)} (h : All (Keeps g) ss) (p : α) (data : Bytes) :
    g (run ss p data).1 = g p := Keeps.seq h ({ rest := data }, p)

end Stage

def ConnAck.stages : List (Stage ConnAck) :=
  [.get (fun _ => decU8) (·.flags) (fun p v => { p with flags := v }),
   .get (fun _ => decU8) (·.reasonCode) (fun p v => { p with reasonCode := v }),
   .props ConnAck.table (fun p => lastBin p.binInit) ConnAck.applyOcc]

theorem ConnAck.unmarshal_eq_run (p : ConnAck) (d : Bytes) : p.unmarshal d = Stage.run ConnAck.stages p d := by rfl

def Disconnect.stages : List (Stage Disconnect) :=
  [.get (fun _ => decU8) (·.reasonCode) (fun p v => { p with reasonCode := v }),
   .props Disconnect.table (fun p => lastBin p.binInit) Disconnect.applyOcc]

theorem Disconnect.unmarshal_eq_run (p : Disconnect) (d : Bytes) : p.unmarshal d = Stage.run Disconnect.stages p d := by rfl

def Auth.stages : List (Stage Auth) :=
  [.get (fun _ => decU8) (·.reasonCode) (fun p v => { p with reasonCode := v }),
   .props Auth.table (fun p => lastBin p.binInit) Auth.applyOcc]

theorem Auth.unmarshal_eq_run (p : Auth) (d : Bytes) : p.unmarshal d = Stage.run Auth.stages p d := by rfl

/-- `if len(data) > 2 { … }` looks at the whole body, not at the cursor. The table has one string entry, the reason string,
so what a string destination held before is that field whatever the identifier (`fun _ => p.reason`; SUBACK likewise);
the types with several string properties look it up by identifier, `p.binInit`. -/
def Ack.stages (data : Bytes) : List (Stage Ack) :=
  [.get (fun _ => decU16) (·.packetID) (fun p v => { p with packetID := v }),
   .when (fun _ => data.length > 2)
     [.get (fun _ => decU8) (·.reasonCode) (fun p v => { p with reasonCode := v }),
      .props Ack.table (fun p => lastBin fun _ => p.reason) Ack.applyOcc]]

theorem Ack.unmarshal_eq_run (p : Ack) (d : Bytes) : p.unmarshal d = Stage.run (Ack.stages d) p d := by
  simp only [Ack.unmarshal, Ack.stages, Stage.run, Stage.seq, Stage.when, List.foldl]; split <;> rfl

def SubAck.stages : List (Stage SubAck) :=
  [.get (fun _ => decU16) (·.packetID) (fun p v => { p with packetID := v }),
   .props SubAck.table (fun p => lastBin fun _ => p.reasonString) SubAck.applyOcc,
   SubAck.codesStage]

theorem SubAck.unmarshal_eq_run (p : SubAck) (d : Bytes) : p.unmarshal d = Stage.run SubAck.stages p d := by rfl

def Subscribe.stages (data : Bytes) : List (Stage Subscribe) :=
  [.get (fun _ => decU16) (·.packetID) (fun p v => { p with packetID := v }),
   .props Subscribe.table (fun _ => noOld) Subscribe.applyOcc,
   Subscribe.filterStage data]

theorem Subscribe.unmarshal_eq_run (p : Subscribe) (d : Bytes) : p.unmarshal d = Stage.run (Subscribe.stages d) p d := by rfl

def Unsubscribe.stages (data : Bytes) : List (Stage Unsubscribe) :=
  [.get (fun _ => decU16) (·.packetID) (fun p v => { p with packetID := v }),
   .props [] (fun _ => noOld) Unsubscribe.applyOcc,
   Unsubscribe.filterStage data]

theorem Unsubscribe.unmarshal_eq_run (p : Unsubscribe) (d : Bytes) :
    p.unmarshal d = Stage.run (Unsubscribe.stages d) p d := by rfl

def Publish.stages : List (Stage Publish) :=
  [.get (fun p => decBin p.topicName) (·.topicName) (fun p v => { p with topicName := v }),
   .when (fun s => s.2.hasPacketID = true) [.get (fun _ => decU16) (·.packetID) (fun p v => { p with packetID := v })],
   .props Publish.table (fun p => lastBin p.binInit) Publish.applyOcc,
   .when (fun s => s.1.rest ≠ []) [.get (fun _ => decRaw) (·.payload) (fun p v => { p with payload := v })]]

theorem Publish.unmarshal_eq_run (p : Publish) (d : Bytes) : p.unmarshal d = Stage.run Publish.stages p d := by rfl

def Connect.stages : List (Stage Connect) :=
  [.get (fun p => decBin p.protocolName) (·.protocolName) (fun p v => { p with protocolName := v }),
   .get (fun _ => decU8) (·.protocolVersion) (fun p v => { p with protocolVersion := v }),
   .get (fun _ => decU8) (·.flags) (fun p v => { p with flags := v }),
   .get (fun _ => decU16) (·.keepAlive) (fun p v => { p with keepAlive := v }),
   .props Connect.table (fun p => lastBin p.binInit) Connect.applyOcc,
   .get (fun p => decBin p.clientID) (·.clientID) (fun p v => { p with clientID := v }),
   .when (fun s => has s.2.flags Connect.fWillFlag = true) [Connect.willBlock Connect.willTable Connect.applyWillOcc],
   .when (fun s => has s.2.flags Connect.fUsername = true)
     [.get (fun p => decBin p.username) (·.username) (fun p v => { p with username := v })],
   .when (fun s => has s.2.flags Connect.fPassword = true)
     [.get (fun p => decBin p.password) (·.password) (fun p v => { p with password := v })]]

/-! CONNECT's decoder around its will block: only that stage touches `will` and `willPayload`, and nothing after it
touches the flags, so an invariant over these fields is a fact about the one stage. -/

def Connect.preWill : List (Stage Connect) := Connect.stages.take 6
def Connect.willStage : Stage Connect := .when (fun s => has s.2.flags Connect.fWillFlag = true)
  [Connect.willBlock Connect.willTable Connect.applyWillOcc]
def Connect.postWill : List (Stage Connect) := Connect.stages.drop 7

theorem Connect.stages_split : Connect.stages = Connect.preWill ++ Connect.willStage :: Connect.postWill := rfl

/-- The nine stages against the six named steps of the model's function, a few at a time: with the steps in front
rewritten, the two sides agree syntactically up to the ones compared. (`rfl` on the whole list is slow to check: the
unifier unfolds the earlier steps wherever a later one mentions them.) -/
theorem Connect.unmarshal_eq_run (p : Connect) (d : Bytes) : p.unmarshal d = Stage.run Connect.stages p d := by
  have pre (b : Buf) : Stage.seq Connect.preWill (b, p)
      = ((p.readHead b).2.readProps (p.readHead b).1).2.readClientID ((p.readHead b).2.readProps (p.readHead b).1).1 := by
    cases p; rfl
  have will (s : Buf × Connect) : Connect.willStage s = s.2.readWill s.1 := rfl
  have user (s : Buf × Connect) : Stage.seq (Connect.postWill.take 1) s = s.2.readUsername s.1 := rfl
  have pass (s : Buf × Connect) : Stage.seq (Connect.postWill.drop 1) s = s.2.readPassword s.1 := rfl
  rw [Stage.run, Connect.stages_split, Stage.seq_append, Stage.seq_cons, pre, will,
    show Connect.postWill = Connect.postWill.take 1 ++ Connect.postWill.drop 1 from rfl, Stage.seq_append, user, pass]
  rfl

theorem Connect.unmarshal_split (p : Connect) (d : Bytes) :
    (p.unmarshal d).1 = (Stage.seq Connect.postWill (Connect.willStage (Stage.seq Connect.preWill ({ rest := d }, p)))).2 := by
  rw [Connect.unmarshal_eq_run, Connect.stages_split, Stage.run, Stage.seq_append, Stage.seq_cons]

theorem Connect.preWill_keeps : Stage.All (Stage.Keeps fun p : Connect => (p.will, p.willPayload)) Connect.preWill :=
  ⟨.get fun _ _ => rfl, .get fun _ _ => rfl, .get fun _ _ => rfl, .get fun _ _ => rfl,
   .props fun p o => congrArg (fun t => (t.2.1, t.2.2.1)) (Connect.applyOcc_nonProps p o), .get fun _ _ => rfl, trivial⟩

theorem Connect.postWill_keeps :
    Stage.All (Stage.Keeps fun p : Connect => (p.flags, p.will, p.willPayload)) Connect.postWill :=
  ⟨.when ⟨.get fun _ _ => rfl, trivial⟩, .when ⟨.get fun _ _ => rfl, trivial⟩, trivial⟩

/-- As far as the cursor goes CONNECT's will block is three stages, a property section and two strings, that write nothing to
the packet: it builds the will from what the three read at the end. What is said of a stage through its cursor alone
(the sticky failure, a cut) is said of the block through these. -/
def Connect.willCursor (tbl : PropTable) (p : Connect) : List (Stage Connect) :=
  [.props tbl (fun _ => lastBin fun _ => []) (fun p _ => p),
   .get (fun _ => decBin []) (fun _ => []) (fun p _ => p),
   .get (fun _ => decBin p.willPayload) (fun _ => p.willPayload) (fun p _ => p)]

theorem Connect.willBlock_cursor (tbl : PropTable) (apply : UInt32 × Publish → PropOcc → UInt32 × Publish)
    (s : Buf × Connect) : (Connect.willBlock tbl apply s).1 = (Stage.seq (Connect.willCursor tbl s.2) s).1 := rfl

/-- the shape of the two filter loops (SUBSCRIBE's and UNSUBSCRIBE's); both have it by `rfl`, so what is proved of such
a loop is proved once -/
def LoopEq {β : Type} (body : Buf → Buf × β) (loop : Nat → Buf → List β → Buf × List β) : Prop :=
  ∀ fuel b acc, loop (fuel + 1) b acc =
    if (body b).1.st ≠ .ok then ((body b).1, acc ++ [(body b).2])
    else if (body b).1.rest = [] then ((body b).1, acc ++ [(body b).2])
    else loop fuel (body b).1 (acc ++ [(body b).2])

/-- the body of the SUBSCRIBE filter loop: `get(&f.filter); get(&f.options)` -/
def Subscribe.filterBody (b : Buf) : Buf × TopicFilter :=
  (((b.get (decBin []) []).1.get decU8 0).1, ⟨(b.get (decBin []) []).2, ((b.get (decBin []) []).1.get decU8 0).2⟩)

theorem Subscribe.filterLoop_eq : LoopEq Subscribe.filterBody Subscribe.filterLoop := fun _ _ _ => rfl

/-- the body of the UNSUBSCRIBE filter loop: `get(&f)` -/
def Unsubscribe.filterBody (b : Buf) : Buf × Bytes := b.get (decBin []) []

theorem Unsubscribe.filterLoop_eq : LoopEq Unsubscribe.filterBody Unsubscribe.filterLoop := fun _ _ _ => rfl

end Mq
