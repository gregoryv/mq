import Proofs.Bits
import Proofs.Outcome
import Proofs.Stages
/-!
# Proofs.Fixed — decoding never touches the first byte; encoding starts with it

`fixed` is the first component of every `T.nonProps` (Proofs.ApplyOcc): the `congrArg (·.1)` of the property stages.
-/
namespace Mq

open Stage

theorem Ack.unmarshal_fixed (p : Ack) (d : Bytes) : (p.unmarshal d).1.fixed = p.fixed :=
  Ack.unmarshal_eq_run p d ▸ Keeps.run (g := Ack.fixed) (ss := Ack.stages d)
    ⟨.get fun _ _ => rfl, .when ⟨.get fun _ _ => rfl, .props fun p o => congrArg (·.1) (Ack.applyOcc_nonProps p o), trivial⟩,
     trivial⟩ p d

theorem Disconnect.unmarshal_fixed (p : Disconnect) (d : Bytes) : (p.unmarshal d).1.fixed = p.fixed :=
  Disconnect.unmarshal_eq_run p d ▸ Keeps.run (g := Disconnect.fixed) (ss := Disconnect.stages)
    ⟨.get fun _ _ => rfl, .props fun p o => congrArg (·.1) (Disconnect.applyOcc_nonProps p o), trivial⟩ p d

theorem Auth.unmarshal_fixed (p : Auth) (d : Bytes) : (p.unmarshal d).1.fixed = p.fixed :=
  Auth.unmarshal_eq_run p d ▸ Keeps.run (g := Auth.fixed) (ss := Auth.stages)
    ⟨.get fun _ _ => rfl, .props fun p o => congrArg (·.1) (Auth.applyOcc_nonProps p o), trivial⟩ p d

theorem ConnAck.unmarshal_fixed (p : ConnAck) (d : Bytes) : (p.unmarshal d).1.fixed = p.fixed :=
  ConnAck.unmarshal_eq_run p d ▸ Keeps.run (g := ConnAck.fixed) (ss := ConnAck.stages)
    ⟨.get fun _ _ => rfl, .get fun _ _ => rfl, .props fun p o => congrArg (·.1) (ConnAck.applyOcc_nonProps p o), trivial⟩ p d

theorem SubAck.unmarshal_fixed (p : SubAck) (d : Bytes) : (p.unmarshal d).1.fixed = p.fixed :=
  SubAck.unmarshal_eq_run p d ▸ Keeps.run (g := SubAck.fixed) (ss := SubAck.stages)
    ⟨.get fun _ _ => rfl, .props fun p o => congrArg (·.1) (SubAck.applyOcc_nonProps p o), fun _ => rfl, trivial⟩ p d

theorem Subscribe.unmarshal_fixed (p : Subscribe) (d : Bytes) : (p.unmarshal d).1.fixed = p.fixed :=
  Subscribe.unmarshal_eq_run p d ▸ Keeps.run (g := Subscribe.fixed) (ss := Subscribe.stages d)
    ⟨.get fun _ _ => rfl, .props fun p o => congrArg (·.1) (Subscribe.applyOcc_nonProps p o), fun _ => rfl, trivial⟩ p d

theorem Unsubscribe.unmarshal_fixed (p : Unsubscribe) (d : Bytes) : (p.unmarshal d).1.fixed = p.fixed :=
  Unsubscribe.unmarshal_eq_run p d ▸ Keeps.run (g := Unsubscribe.fixed) (ss := Unsubscribe.stages d)
    ⟨.get fun _ _ => rfl, .props fun p o => congrArg (·.1) (Unsubscribe.applyOcc_nonProps p o), fun _ => rfl, trivial⟩ p d

theorem Publish.unmarshal_fixed (p : Publish) (d : Bytes) : (p.unmarshal d).1.fixed = p.fixed :=
  Publish.unmarshal_eq_run p d ▸ Keeps.run (g := Publish.fixed) (ss := Publish.stages)
    ⟨.get fun _ _ => rfl, .when ⟨.get fun _ _ => rfl, trivial⟩,
     .props fun p o => congrArg (·.1) (Publish.applyOcc_nonProps p o), .when ⟨.get fun _ _ => rfl, trivial⟩, trivial⟩ p d

theorem Connect.unmarshal_fixed (p : Connect) (d : Bytes) : (p.unmarshal d).1.fixed = p.fixed :=
  Connect.unmarshal_eq_run p d ▸ Keeps.run (g := Connect.fixed) (ss := Connect.stages)
    ⟨.get fun _ _ => rfl, .get fun _ _ => rfl, .get fun _ _ => rfl, .get fun _ _ => rfl,
     .props fun p o => congrArg (·.1) (Connect.applyOcc_nonProps p o), .get fun _ _ => rfl,
     .when ⟨fun _ => rfl, trivial⟩, .when ⟨.get fun _ _ => rfl, trivial⟩, .when ⟨.get fun _ _ => rfl, trivial⟩,
     trivial⟩ p d

theorem Packet.unmarshal_kind_fixed (p : Packet) (d : Bytes) :
    (p.unmarshal d).1.kind = p.kind ∧ (p.unmarshal d).1.fixed = p.fixed := by
  cases p with
  | undefined q | pingreq q | pingresp q => exact ⟨rfl, rfl⟩
  | connect q | connack q | publish q | puback q | pubrec q | pubrel q | pubcomp q | subscribe q | suback q
  | unsubscribe q | unsuback q | disconnect q | auth q => exact ⟨rfl, q.unmarshal_fixed d⟩

/-- whatever `WriteTo` emits is `frame` of the packet's first byte and some body -/
theorem Packet.encode_frame (p : Packet) (bs : Bytes) (h : p.encode = .bytes bs) : ∃ body, bs = frame p.fixed body := by
  cases p with
  | undefined q => cases h
  | connect q =>
    simp only [Packet.encode, Connect.encode?] at h
    cases hb : q.body? <;> rw [hb] at h <;> cases h
    exact ⟨_, rfl⟩
  | pingreq q | pingresp q => cases h; exact ⟨[], rfl⟩
  | _ => cases h; exact ⟨_, rfl⟩

theorem Packet.encode_head (p : Packet) (bs : Bytes) (h : p.encode = .bytes bs) : bs.head? = some p.fixed := by
  obtain ⟨_, rfl⟩ := p.encode_frame bs h; rfl

/-- complete enumeration of the 256 first bytes (a finite table, not a sample) -/
theorem Packet.dispatch_kind_fixed (b : UInt8) :
    (Packet.dispatch b).kind = (b >>> 4).toNat ∧ ((b >>> 4).toNat ≠ 0 → (Packet.dispatch b).fixed = b) :=
  UInt8.forall_of_fin b (by decide +kernel)

theorem frameOutcome_kind_fixed {b0 : UInt8} {body : Bytes} {q : Packet} (h : frameOutcome b0 body = .pkt q) :
    q.kind = (b0 >>> 4).toNat ∧ ((b0 >>> 4).toNat ≠ 0 → q.fixed = b0) := by
  have hd := Packet.dispatch_kind_fixed b0
  rcases frameOutcome_pkt h with rfl | rfl
  · exact hd
  · have hk := Packet.unmarshal_kind_fixed (Packet.dispatch b0) body
    exact ⟨hk.1.trans hd.1, fun hne => hk.2.trans (hd.2 hne)⟩

end Mq
