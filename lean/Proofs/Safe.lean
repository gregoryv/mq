import Proofs.Buf
import Proofs.ApplyOcc
import Proofs.Stages
/-!
# Proofs.Safe — every decoder returns normally (no panic, no hang) with bounded list growth

`elems` counts the list elements a packet holds (user properties, subscription identifiers,
filters, reason codes) — the quantity C05 bounds by the number of input bytes.

`Step b n b' n'` says that a decode which was at cursor `b` holding `n` elements is now at `b'` holding `n'`:
no abnormal outcome appeared, bytes were only consumed, and every new element was paid for by a consumed byte.
A stage is `Tame` when it is such a step from every state; `get`, `getAny` and `if` are, sequencing keeps it,
and a tame list run from the fresh cursor gives the three facts C04 and C05 ask of a decoder.
-/
namespace Mq

theorem foldl_elems_le {P : Type} (elems : P → Nat) (f : P → PropOcc → P)
    (hstep : ∀ p o, elems (f p o) ≤ elems p + 1) :
    ∀ (occs : List PropOcc) (p : P), elems (occs.foldl f p) ≤ elems p + occs.length := by
  intro occs
  induction occs with
  | nil => intro p; simp
  | cons o t ih =>
    intro p
    simp only [List.foldl_cons, List.length_cons]
    have := ih (f p o)
    have := hstep p o
    omega

theorem elems_step_le {P : Type} {ups : P → UserProps} {other : P → Nat} {p p' : P} {o : PropOcc}
    (hu : ups p' = ups p ++ occPairs [o]) (ho : other p' = other p) :
    (ups p').length + other p' ≤ (ups p).length + other p + 1 := by
  rw [ho]; have := occPairs_step_le hu; omega

theorem Step.props {P : Type} (elems : P → Nat) {apply : P → PropOcc → P}
    (hstep : ∀ p o, elems (apply p o) ≤ elems p + 1) (b : Buf) (tbl : PropTable)
    (oldOf : UInt8 → List PropOcc → Bytes) (p : P) :
    Step b (elems p) (b.getAny tbl oldOf).1 (elems ((b.getAny tbl oldOf).2.foldl apply p)) :=
  (Nat.zero_add (elems p) ▸ (getAny_step b tbl oldOf).add (elems p)).mono (Nat.le_refl _)
    (Nat.add_comm _ _ ▸ foldl_elems_le elems apply hstep (b.getAny tbl oldOf).2 p)

theorem Step.run {data : Bytes} {n n' : Nat} {b' : Buf} (h : Step { rest := data } n b' n') :
    b'.st ≠ .panic ∧ b'.st ≠ .hang ∧ n' ≤ n + data.length :=
  have a := h (safe_init data)
  ⟨a.1.1, a.1.2, Nat.le_trans (Nat.le_add_right _ _) a.2.2⟩

namespace Stage
variable {α : Type}

def Tame (elems : α → Nat) (s : Stage α) : Prop := ∀ x, Step x.1 (elems x.2) (s x).1 (elems (s x).2)

theorem Tame.seq {elems : α → Nat} : ∀ {ss : List (Stage α)}, All (Tame elems) ss → Tame elems (seq ss)
  | [], _, _ => Step.rfl
  | _ :: _, h, x => (h.1 x).trans (Tame.seq h.2 _)

theorem Tame.get {β : Type} {elems : α → Nat} {dec : α → Dec β} {rd : α → β} {wr : α → β → α}
    (hd : ∀ p, (dec p).NoPanic) (hw : ∀ p v, elems (wr p v) = elems p) : Tame elems (get dec rd wr) := fun x => by
  simp only [Stage.get, hw]
  exact Step.get (hd x.2) x.1 _ _

theorem Tame.props {elems : α → Nat} {tbl : PropTable} {oldOf : α → UInt8 → List PropOcc → Bytes}
    {apply : α → PropOcc → α} (h : ∀ p o, elems (apply p o) ≤ elems p + 1) : Tame elems (props tbl oldOf apply) :=
  fun x => Step.props elems h x.1 tbl _ x.2

theorem Tame.when {elems : α → Nat} {c : Buf × α → Prop} [∀ s, Decidable (c s)] {body : List (Stage α)}
    (h : All (Tame elems) body) : Tame elems (when c body) := fun x => by
  unfold Stage.when
  split
  · exact Tame.seq h x
  · exact Step.rfl

theorem Tame.run {elems : α → Nat} {ss : List (Stage α)} (h : All (Tame elems) ss) (p : α) (data : Bytes) :
    (run ss p data).2 ≠ .panic ∧ (run ss p data).2 ≠ .hang ∧ elems (run ss p data).1 ≤ elems p + data.length :=
  (Tame.seq h ({ rest := data }, p)).run

/-- a tame list followed by one stage that may leave one element unpaid: the filter loops append the filter they were
reading also when it is the error that stops them. Used with `ss := (T.stages data).dropLast`: on a list written out
`dropLast` and `++ [s]` evaluate, so the statement meets a goal about `T.stages data` by unfolding. -/
theorem Tame.run_snoc {elems : α → Nat} {ss : List (Stage α)} {s : Stage α} {data : Bytes} (h : All (Tame elems) ss)
    (hs : ∀ x, x.1.rest.length ≤ data.length → Step x.1 (elems x.2 + 1) (s x).1 (elems (s x).2)) (p : α) :
    (Stage.run (ss ++ [s]) p data).2 ≠ .panic ∧ (Stage.run (ss ++ [s]) p data).2 ≠ .hang
      ∧ elems (Stage.run (ss ++ [s]) p data).1 ≤ elems p + data.length + 1 := by
  have h := Tame.seq h ({ rest := data }, p)
  have t := ((h.add 1).trans (hs _ (h (safe_init data)).2.1)).run
  simp only [Stage.run, Stage.seq, List.foldl_append, List.foldl_cons, List.foldl_nil]
  exact ⟨t.1, t.2.1, Nat.le_trans t.2.2 (Nat.le_of_eq (Nat.add_right_comm _ _ _))⟩

end Stage

open Stage

def Ack.elems (p : Ack) : Nat := p.userProps.length
def Disconnect.elems (p : Disconnect) : Nat := p.userProps.length
def Auth.elems (p : Auth) : Nat := p.userProps.length
def ConnAck.elems (p : ConnAck) : Nat := p.userProps.length
def SubAck.elems (p : SubAck) : Nat := p.userProps.length + p.reasonCodes.length
def Subscribe.elems (p : Subscribe) : Nat := p.userProps.length + p.filters.length
def Unsubscribe.elems (p : Unsubscribe) : Nat := p.userProps.length + p.filters.length
def Publish.elems (p : Publish) : Nat := p.userProps.length + p.subscriptionIDs.length
def Connect.elems (p : Connect) : Nat :=
  p.userProps.length + (match p.will with | some w => w.userProps.length | none => 0)

theorem Ping.unmarshal_safe (p : Ping) (data : Bytes) :
    (p.unmarshal data).2 ≠ .panic ∧ (p.unmarshal data).2 ≠ .hang := by
  simp [Ping.unmarshal]

theorem Undefined.unmarshal_safe (p : Undefined) (data : Bytes) :
    (p.unmarshal data).2 ≠ .panic ∧ (p.unmarshal data).2 ≠ .hang := by
  simp [Undefined.unmarshal]

theorem Ack.stages_tame (data : Bytes) : All (Tame Ack.elems) (Ack.stages data) :=
  ⟨.get (fun _ => noPanic_u16) fun _ _ => rfl,
   .when ⟨.get (fun _ => noPanic_u8) fun _ _ => rfl,
          .props fun p o => occPairs_step_le (Ack.applyOcc_userProps p o), trivial⟩, trivial⟩

theorem Ack.unmarshal_safe (p : Ack) (data : Bytes) :
    (p.unmarshal data).2 ≠ .panic ∧ (p.unmarshal data).2 ≠ .hang
      ∧ (p.unmarshal data).1.elems ≤ p.elems + data.length :=
  Ack.unmarshal_eq_run p data ▸ Tame.run (Ack.stages_tame data) p data

theorem Disconnect.stages_tame : All (Tame Disconnect.elems) Disconnect.stages :=
  ⟨.get (fun _ => noPanic_u8) fun _ _ => rfl,
   .props fun p o => occPairs_step_le (Disconnect.applyOcc_userProps p o), trivial⟩

theorem Disconnect.unmarshal_safe (p : Disconnect) (data : Bytes) :
    (p.unmarshal data).2 ≠ .panic ∧ (p.unmarshal data).2 ≠ .hang
      ∧ (p.unmarshal data).1.elems ≤ p.elems + data.length :=
  Disconnect.unmarshal_eq_run p data ▸ Tame.run Disconnect.stages_tame p data

theorem Auth.stages_tame : All (Tame Auth.elems) Auth.stages :=
  ⟨.get (fun _ => noPanic_u8) fun _ _ => rfl, .props fun p o => occPairs_step_le (Auth.applyOcc_userProps p o), trivial⟩

theorem Auth.unmarshal_safe (p : Auth) (data : Bytes) :
    (p.unmarshal data).2 ≠ .panic ∧ (p.unmarshal data).2 ≠ .hang
      ∧ (p.unmarshal data).1.elems ≤ p.elems + data.length :=
  Auth.unmarshal_eq_run p data ▸ Tame.run Auth.stages_tame p data

theorem ConnAck.stages_tame : All (Tame ConnAck.elems) ConnAck.stages :=
  ⟨.get (fun _ => noPanic_u8) fun _ _ => rfl, .get (fun _ => noPanic_u8) fun _ _ => rfl,
   .props fun p o => occPairs_step_le (ConnAck.applyOcc_userProps p o), trivial⟩

theorem ConnAck.unmarshal_safe (p : ConnAck) (data : Bytes) :
    (p.unmarshal data).2 ≠ .panic ∧ (p.unmarshal data).2 ≠ .hang
      ∧ (p.unmarshal data).1.elems ≤ p.elems + data.length :=
  ConnAck.unmarshal_eq_run p data ▸ Tame.run ConnAck.stages_tame p data

/-- a user property and a subscription identifier are different occurrences: at most one of the two lists grows -/
theorem Publish.applyOcc_elems (p : Publish) (o : PropOcc) : (p.applyOcc o).elems ≤ p.elems + 1 := by
  unfold Publish.elems
  rw [Publish.applyOcc_userProps, Publish.applyOcc_subscriptionIDs, occPairs_single]
  obtain ⟨id, val⟩ := o
  cases val <;> simp only [List.filterMap_cons, List.filterMap_nil, List.length_append, List.length_nil,
    Nat.add_zero] <;>
    try exact Nat.le_succ _
  · by_cases h : id = 0x26 <;> simp only [h, if_true, if_false, List.length_cons, List.length_nil] <;> omega
  · by_cases h : id = 0x0b <;> simp only [h, if_true, if_false, List.length_cons, List.length_nil] <;> omega

theorem Publish.stages_tame : All (Tame Publish.elems) Publish.stages :=
  ⟨.get (fun _ => noPanic_bin _) fun _ _ => rfl, .when ⟨.get (fun _ => noPanic_u16) fun _ _ => rfl, trivial⟩,
   .props Publish.applyOcc_elems, .when ⟨.get (fun _ => noPanic_raw) fun _ _ => rfl, trivial⟩, trivial⟩

theorem Publish.unmarshal_safe (p : Publish) (data : Bytes) :
    (p.unmarshal data).2 ≠ .panic ∧ (p.unmarshal data).2 ≠ .hang
      ∧ (p.unmarshal data).1.elems ≤ p.elems + data.length :=
  Publish.unmarshal_eq_run p data ▸ Tame.run Publish.stages_tame p data

/-- the loop appends what its body read also in the round that stops it: one element per round, each round but the last
paid for by a byte (the `+ 1`) -/
theorem loop_step {β : Type} {body : Buf → Buf × β} {loop : Nat → Buf → List β → Buf × List β}
    (hs : LoopEq body loop)
    (hsafe : ∀ b, b.Safe → (body b).1.Safe) (hle : ∀ b, (body b).1.rest.length ≤ b.rest.length)
    (hlt : ∀ b, (body b).1.st = .ok → (body b).1.rest.length < b.rest.length) (u : Nat) :
    ∀ (fuel : Nat) (b : Buf) (acc : List β), b.rest.length < fuel →
      Step b (u + acc.length + 1) (loop fuel b acc).1 (u + (loop fuel b acc).2.length) := by
  intro fuel
  induction fuel with
  | zero => intro b acc h; omega
  | succ fuel ih =>
    intro b acc hf hb
    have s1 := hsafe b hb
    have l1 := hle b
    have stop : Step b (u + acc.length + 1) (body b).1 (u + (acc ++ [(body b).2]).length) := fun _ =>
      ⟨s1, l1, by simp only [List.length_append, List.length_singleton]; omega⟩
    rw [hs]
    split
    next => exact stop hb
    next hok =>
      split
      next => exact stop hb
      next =>
        have hd := hlt b (Decidable.not_not.mp hok)
        have := ih (body b).1 (acc ++ [(body b).2]) (by omega) s1
        simp only [List.length_append, List.length_singleton] at this
        exact ⟨this.1, by omega, by omega⟩

theorem Subscribe.filterStage_step (data : Bytes) (x : Buf × Subscribe) (hx : x.1.rest.length ≤ data.length) :
    Step x.1 (x.2.elems + 1) (Subscribe.filterStage data x).1 (Subscribe.filterStage data x).2.elems :=
  loop_step Subscribe.filterLoop_eq
    (fun _ h => get_safe _ _ _ (get_safe _ _ _ h (noPanic_bin [])) noPanic_u8)
    (fun _ => Nat.le_trans (get_rest_le _ _ _) (get_rest_le _ _ _))
    (fun b h => Nat.lt_of_le_of_lt (get_rest_le _ _ _) (get_ok_lt decBin_ok_pos b [] (get_st_ok _ _ _ h)))
    x.2.userProps.length (data.length + 1) x.1 x.2.filters (Nat.lt_succ_of_le hx)

theorem Unsubscribe.filterStage_step (data : Bytes) (x : Buf × Unsubscribe) (hx : x.1.rest.length ≤ data.length) :
    Step x.1 (x.2.elems + 1) (Unsubscribe.filterStage data x).1 (Unsubscribe.filterStage data x).2.elems :=
  loop_step Unsubscribe.filterLoop_eq
    (fun _ h => get_safe _ _ _ h (noPanic_bin [])) (fun _ => get_rest_le _ _ _)
    (fun b h => get_ok_lt decBin_ok_pos b [] h)
    x.2.userProps.length (data.length + 1) x.1 x.2.filters (Nat.lt_succ_of_le hx)

theorem SubAck.stages_tame : All (Tame fun p : SubAck => p.userProps.length) SubAck.stages :=
  ⟨.get (fun _ => noPanic_u16) fun _ _ => rfl,
   .props fun p o => occPairs_step_le (SubAck.applyOcc_userProps p o), fun _ => Step.rfl, trivial⟩

/-- The reason codes are replaced by what is left of the frame, one per byte, so those the packet held do not count:
`SubAck.stages_tame` is about the user properties alone, and the new codes are the bytes still unread at the end. -/
theorem SubAck.unmarshal_safe (p : SubAck) (data : Bytes) :
    (p.unmarshal data).2 ≠ .panic ∧ (p.unmarshal data).2 ≠ .hang
      ∧ (p.unmarshal data).1.elems ≤ p.userProps.length + data.length := by
  rw [SubAck.unmarshal_eq_run]
  have h := Tame.seq SubAck.stages_tame ({ rest := data }, p) (safe_init data)
  refine ⟨h.1.1, h.1.2, Nat.le_trans (Nat.le_of_eq ?_) h.2.2⟩
  simp only [SubAck.stages, Stage.run, Stage.seq, List.foldl, SubAck.codesStage, SubAck.elems]
  split <;> simp

theorem Subscribe.applyOcc_elems (p : Subscribe) (o : PropOcc) : (p.applyOcc o).elems ≤ p.elems + 1 :=
  elems_step_le (other := fun p => p.filters.length) (Subscribe.applyOcc_userProps p o)
    (congrArg (·.2.1.length) (Subscribe.applyOcc_nonProps p o))

theorem Subscribe.unmarshal_safe (p : Subscribe) (data : Bytes) :
    (p.unmarshal data).2 ≠ .panic ∧ (p.unmarshal data).2 ≠ .hang
      ∧ (p.unmarshal data).1.elems ≤ p.elems + data.length + 1 := by
  rw [Subscribe.unmarshal_eq_run]
  exact Tame.run_snoc (elems := Subscribe.elems) (ss := (Subscribe.stages data).dropLast) (s := Subscribe.filterStage data)
    ⟨.get (fun _ => noPanic_u16) fun _ _ => rfl, .props Subscribe.applyOcc_elems, trivial⟩ (Subscribe.filterStage_step data) p

theorem Unsubscribe.applyOcc_elems (p : Unsubscribe) (o : PropOcc) : (p.applyOcc o).elems ≤ p.elems + 1 :=
  elems_step_le (other := fun p => p.filters.length) (Unsubscribe.applyOcc_userProps p o)
    (congrArg (·.2.1.length) (Unsubscribe.applyOcc_nonProps p o))

theorem Unsubscribe.unmarshal_safe (p : Unsubscribe) (data : Bytes) :
    (p.unmarshal data).2 ≠ .panic ∧ (p.unmarshal data).2 ≠ .hang
      ∧ (p.unmarshal data).1.elems ≤ p.elems + data.length + 1 := by
  rw [Unsubscribe.unmarshal_eq_run]
  exact Tame.run_snoc (elems := Unsubscribe.elems) (ss := (Unsubscribe.stages data).dropLast) (s := Unsubscribe.filterStage data)
    ⟨.get (fun _ => noPanic_u16) fun _ _ => rfl, .props Unsubscribe.applyOcc_elems, trivial⟩ (Unsubscribe.filterStage_step data) p

theorem Connect.applyOcc_elems (p : Connect) (o : PropOcc) : (p.applyOcc o).elems ≤ p.elems + 1 :=
  elems_step_le (other := fun p => match p.will with | some w => w.userProps.length | none => 0)
    (Connect.applyOcc_userProps p o) (by rw [show (p.applyOcc o).will = p.will from congrArg (·.2.1) (Connect.applyOcc_nonProps p o)])

/-- the will block replaces the will: its three reads are steps from a will without user properties (the `0`), so those
of the new will are paid for by the bytes of its property section, and those of the will the packet held are dropped -/
theorem Connect.willBlock_tame : Tame Connect.elems (Connect.willBlock Connect.willTable Connect.applyWillOcc) := fun x =>
  have s : Step x.1 0 _ _ :=
    ((Step.props (fun s : UInt32 × Publish => s.2.userProps.length)
        (fun s o => occPairs_step_le (Will.applyOcc_userProps s o)) x.1 Connect.willTable (lastBin fun _ => [])
        (x.2.willDelayInterval, (Publish.new.setQoS x.2.willQoS).setRetain (has x.2.flags Connect.fWillRetain))).trans
      (Step.get (noPanic_bin []) _ [] _)).trans (Step.get (noPanic_bin x.2.willPayload) _ x.2.willPayload _)
  (s.add x.2.userProps.length).mono (Nat.zero_add _ ▸ Nat.le_add_right _ _) (Nat.le_of_eq (Nat.add_comm _ _))

theorem Connect.stages_tame : All (Tame Connect.elems) Connect.stages :=
  ⟨.get (fun _ => noPanic_bin _) fun _ _ => rfl, .get (fun _ => noPanic_u8) fun _ _ => rfl,
   .get (fun _ => noPanic_u8) fun _ _ => rfl, .get (fun _ => noPanic_u16) fun _ _ => rfl,
   .props Connect.applyOcc_elems, .get (fun _ => noPanic_bin _) fun _ _ => rfl,
   .when ⟨Connect.willBlock_tame, trivial⟩, .when ⟨.get (fun _ => noPanic_bin _) fun _ _ => rfl, trivial⟩,
   .when ⟨.get (fun _ => noPanic_bin _) fun _ _ => rfl, trivial⟩, trivial⟩

theorem Connect.unmarshal_safe (p : Connect) (data : Bytes) :
    (p.unmarshal data).2 ≠ .panic ∧ (p.unmarshal data).2 ≠ .hang
      ∧ (p.unmarshal data).1.elems ≤ p.elems + data.length :=
  Connect.unmarshal_eq_run p data ▸ Tame.run Connect.stages_tame p data

end Mq
