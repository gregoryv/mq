import Mq.Buf
import Proofs.Vbint
/-!
# Proofs.Buf — the cursor and the property loop

`get`: when it leaves the status `ok`, what it does after a failure, what it reads on the encoding of a value. The loop of
`getAny`: one round as a single equation (`propDec`, `getAnyLoop_succ`), from which every later proof about the loop
starts. Neither ends in `panic` or `hang`, and the occurrences read are paid for by bytes consumed (`Buf.Safe`, `Step`, `getAny_step`);
whatever the input, an occurrence the loop records has the kind under which the loop knows its identifier (`PropTable.known`,
`getAny_known`), so a statement about one value of every kind per known identifier (`WVal.Any`) speaks of all it can record.
-/
namespace Mq

/-- neither of the two abnormal outcomes: no run-time panic of the Go code, no loop out of fuel -/
def Buf.Safe (b : Buf) : Prop := b.st ≠ .panic ∧ b.st ≠ .hang

theorem safe_init (data : Bytes) : ({ rest := data } : Buf).Safe := ⟨St.noConfusion, St.noConfusion⟩

theorem DecRes.map_ne_panic {α β} (f : α → β) (r : DecRes α) (h : r ≠ .panic) : r.map f ≠ .panic := by
  cases r <;> simp [DecRes.map] at *

theorem decK_noPanic (old : Bytes) (k : WKind) : (decK old k).NoPanic := by
  intro d hd
  cases k <;> simp only [decK] <;> apply DecRes.map_ne_panic
  · exact noPanic_u8 d hd
  · exact noPanic_u16 d hd
  · exact noPanic_u32 d hd
  · exact noPanic_bool d hd
  · exact noPanic_bin old d hd
  · exact noPanic_pair d hd
  · exact noPanic_vb d hd

theorem get_safe {α} (b : Buf) (dec : Dec α) (old : α) (h : b.Safe) (hd : dec.NoPanic) :
    (b.get dec old).1.Safe := by
  unfold Buf.get
  split
  next =>
    split
    next => exact ⟨St.noConfusion, St.noConfusion⟩
    next hne =>
      split
      next => split <;> exact ⟨St.noConfusion, St.noConfusion⟩
      next => exact ⟨St.noConfusion, St.noConfusion⟩
      next hp => exact absurd hp (hd b.rest hne)
  next => exact h

theorem get_rest_le {α} (b : Buf) (dec : Dec α) (old : α) : (b.get dec old).1.rest.length ≤ b.rest.length := by
  unfold Buf.get
  split
  · split
    · simp
    · split
      · split <;> simp
      · simp
      · simp
  · simp

theorem get_of_not_ok {α} (b : Buf) (dec : Dec α) (old : α) (h : b.st ≠ .ok) : b.get dec old = (b, old) := by
  unfold Buf.get
  split
  next hok => exact absurd hok h
  next => rfl

theorem get_st_ok {α} (b : Buf) (dec : Dec α) (old : α) (h : (b.get dec old).1.st = .ok) : b.st = .ok :=
  Decidable.by_contra fun hb => hb (by rwa [get_of_not_ok b dec old hb] at h)

theorem get_ok_inv {α} (b : Buf) (dec : Dec α) (old : α) (h : (b.get dec old).1.st = .ok) :
    b.rest ≠ [] ∧ ∃ v w, dec b.rest = .ok v w ∧ w ≤ b.rest.length ∧ (b.get dec old).1.rest = b.rest.drop w
      ∧ (b.get dec old).2 = v := by
  have hb := get_st_ok b dec old h
  unfold Buf.get at h ⊢
  simp only [hb] at h ⊢
  split at h
  next => cases h
  next hne =>
    refine ⟨hne, ?_⟩
    rw [if_neg hne]
    split at h
    next v w hdec =>
      by_cases hw : w ≤ b.rest.length
      · rw [if_pos hw]
        exact ⟨v, w, hdec, hw, rfl, rfl⟩
      · rw [if_neg hw] at h; cases h
    next => cases h
    next => cases h

theorem get_ok_lt {α} {dec : Dec α} (hw : ∀ d v w, dec d = .ok v w → 0 < w) (b : Buf) (old : α)
    (h : (b.get dec old).1.st = .ok) : (b.get dec old).1.rest.length < b.rest.length := by
  obtain ⟨hne, v, w, hdec, _, hrest, _⟩ := get_ok_inv b dec old h
  have := hw _ _ _ hdec
  have := List.length_pos_iff.mpr hne
  rw [hrest, List.length_drop]
  omega

theorem get_enc {α} (dec : Dec α) (old v : α) (enc suf : Bytes) (hne : enc ≠ [])
    (hdec : dec (enc ++ suf) = .ok v enc.length) :
    ({ rest := enc ++ suf, st := .ok } : Buf).get dec old = ({ rest := suf, st := .ok }, v) := by
  unfold Buf.get
  have h1 : enc ++ suf ≠ [] := by simp [hne]
  have h2 : enc.length ≤ (enc ++ suf).length := by simp
  simp only [h1, if_false, hdec, h2, if_true, List.drop_left]

theorem decU8_ok_pos (d : Bytes) (v : UInt8) (w : Nat) (h : decU8 d = .ok v w) : 0 < w := by
  cases d with
  | nil => cases h
  | cons a t => cases h; exact Nat.one_pos

/-- which value `buffer.getAny` reads after identifier `id`: `fields[id]`, else the cases of its `switch id`; `none` is
the `default` -/
def propDec (tbl : PropTable) (oldOf : UInt8 → List PropOcc → Bytes) (id : UInt8) (acc : List PropOcc) :
    Option (Dec WVal) :=
  match tbl.lookup id with
  | some k => some (decK (oldOf id acc) k)
  | none => if id = 0x26 then some (decK [] .pair) else if id = 0x0b then some (decK [] .vb) else none

/-- the identifiers `getAny` reads with table `tbl`, each with its kind: those of the table and the two it handles
inline -/
def PropTable.known (tbl : PropTable) : PropTable := tbl ++ [(0x26, .pair), (0x0b, .vb)]

/-- One value of every kind; `pick` takes the one of kind `k`. Every value is the `pick` of its own
kind, so a statement about `u.pick k` for all `u` speaks of all values of kind `k`, and a statement
about all entries `(id, k)` of a table and all `u` speaks of all occurrences the table admits, without a
case split on the value. -/
structure WVal.Any where
  (u8 : UInt8) (u16 : UInt16) (u32 : UInt32) (bool : Bool) (bin k v : Bytes) (vb : Nat)

def WVal.Any.pick (u : WVal.Any) : WKind → WVal
  | .u8 => .u8 u.u8 | .u16 => .u16 u.u16 | .u32 => .u32 u.u32 | .bool => .bool u.bool
  | .bin => .bin u.bin | .pair => .pair u.k u.v | .vb => .vb u.vb

theorem WVal.eq_pick (v : WVal) : ∃ u : WVal.Any, v = u.pick v.kind := by
  cases v with
  | u8 x => exact ⟨⟨x, 0, 0, false, [], [], [], 0⟩, rfl⟩
  | u16 x => exact ⟨⟨0, x, 0, false, [], [], [], 0⟩, rfl⟩
  | u32 x => exact ⟨⟨0, 0, x, false, [], [], [], 0⟩, rfl⟩
  | bool x => exact ⟨⟨0, 0, 0, x, [], [], [], 0⟩, rfl⟩
  | bin x => exact ⟨⟨0, 0, 0, false, x, [], [], 0⟩, rfl⟩
  | pair a b => exact ⟨⟨0, 0, 0, false, [], a, b, 0⟩, rfl⟩
  | vb n => exact ⟨⟨0, 0, 0, false, [], [], [], n⟩, rfl⟩

theorem PropTable.known_elim {tbl : PropTable} {C : PropOcc → Prop}
    (h : ∀ e ∈ tbl.known, ∀ u : WVal.Any, C ⟨e.1, u.pick e.2⟩) {o : PropOcc}
    (ho : (o.id, o.val.kind) ∈ tbl.known) : C o := by
  obtain ⟨u, hu⟩ := o.val.eq_pick
  have := h _ ho u
  rwa [← hu] at this

theorem decK_kind {old : Bytes} {k : WKind} {d : Bytes} {v : WVal} {w : Nat} (h : decK old k d = .ok v w) : v.kind = k := by
  have map_ok : ∀ {α} {f : α → WVal} {r : DecRes α}, r.map f = .ok v w → ∃ x, v = f x := by
    intro α f r hr
    cases r with
    | ok x _ => exact ⟨x, (DecRes.ok.inj hr).1.symm⟩
    | err _ => cases hr
    | panic => cases hr
  cases k <;> obtain ⟨x, rfl⟩ := map_ok h <;> rfl

/-- the decoder `getAny` finds for identifier `id` is that of a kind under which it knows `id` -/
theorem propDec_some {tbl : PropTable} {oldOf : UInt8 → List PropOcc → Bytes} {id : UInt8} {acc : List PropOcc}
    {dec : Dec WVal} (h : propDec tbl oldOf id acc = some dec) : ∃ old k, dec = decK old k ∧ (id, k) ∈ tbl.known := by
  unfold propDec at h
  split at h
  next k hk =>
    obtain ⟨l₁, l₂, e, _⟩ := List.lookup_eq_some_iff.mp hk
    exact ⟨_, k, (Option.some.inj h).symm, List.mem_append_left _ (e ▸ List.mem_append_right _ List.mem_cons_self)⟩
  next =>
    split at h
    next h26 => exact ⟨_, .pair, (Option.some.inj h).symm, List.mem_append_right _ (h26 ▸ List.mem_cons_self)⟩
    next =>
      split at h
      next h0b =>
        exact ⟨_, .vb, (Option.some.inj h).symm, List.mem_append_right _ (h0b ▸ List.mem_cons_of_mem _ List.mem_cons_self)⟩
      next => cases h

theorem propDec_noPanic {tbl : PropTable} {oldOf : UInt8 → List PropOcc → Bytes} {id : UInt8} {acc : List PropOcc}
    {dec : Dec WVal} (h : propDec tbl oldOf id acc = some dec) : dec.NoPanic :=
  have ⟨old, k, e, _⟩ := propDec_some h
  e ▸ decK_noPanic old k

/-- one round of the loop; the three places where the Go code reads a value are one, `propDec` -/
theorem getAnyLoop_succ (tbl : PropTable) (oldOf : UInt8 → List PropOcc → Bytes) (n0 plen fuel : Nat) (b : Buf)
    (acc : List PropOcc) :
    getAnyLoop tbl oldOf n0 plen (fuel + 1) b acc =
      if n0 - b.rest.length < plen then
        if (b.get decU8 0).1.st ≠ .ok then ((b.get decU8 0).1, acc)
        else match propDec tbl oldOf (b.get decU8 0).2 acc with
          | some dec =>
            getAnyLoop tbl oldOf n0 plen fuel ((b.get decU8 0).1.get dec (.u8 0)).1
              (if ((b.get decU8 0).1.get dec (.u8 0)).1.st = .ok
               then acc ++ [⟨(b.get decU8 0).2, ((b.get decU8 0).1.get dec (.u8 0)).2⟩] else acc)
          | none =>
            getAnyLoop tbl oldOf n0 plen fuel { (b.get decU8 0).1 with st := .err (.unknownProp (b.get decU8 0).2) } acc
      else (b, acc) := by
  rw [getAnyLoop]
  unfold propDec
  by_cases hc : n0 - b.rest.length < plen <;> simp only [hc, if_true, if_false]
  by_cases hok : (b.get decU8 0).1.st = .ok <;> simp only [hok, ne_eq, not_true_eq_false, not_false_eq_true, if_true, if_false]
  cases tbl.lookup (b.get decU8 0).2 <;> simp only []
  · by_cases h26 : (b.get decU8 0).2 = 0x26 <;> simp only [h26, if_true, if_false]
    · split <;> rfl
    · by_cases h0b : (b.get decU8 0).2 = 0x0b <;> simp only [h0b, if_true, if_false]
      split <;> rfl
  · split <;> rfl

theorem getAnyLoop_of_not_ok {tbl : PropTable} {oldOf : UInt8 → List PropOcc → Bytes} {n0 plen fuel : Nat} {b : Buf}
    {acc : List PropOcc} (h : b.st ≠ .ok) : getAnyLoop tbl oldOf n0 plen (fuel + 1) b acc = (b, acc) := by
  rw [getAnyLoop_succ, get_of_not_ok b decU8 0 h, if_pos h, ite_self]

/-- every occurrence the loop records has the kind under which `getAny` knows its identifier, whatever the input -/
theorem getAnyLoop_known (tbl : PropTable) (oldOf : UInt8 → List PropOcc → Bytes) (n0 plen : Nat) :
    ∀ (fuel : Nat) (b : Buf) (acc : List PropOcc), (∀ o ∈ acc, (o.id, o.val.kind) ∈ tbl.known) →
      ∀ o ∈ (getAnyLoop tbl oldOf n0 plen fuel b acc).2, (o.id, o.val.kind) ∈ tbl.known
  | 0, _, _, h => h
  | fuel + 1, b, acc, h => by
    rw [getAnyLoop_succ]
    split
    · split
      · exact h
      · split
        next dec hdec =>
          refine getAnyLoop_known tbl oldOf n0 plen fuel _ _ ?_
          split
          next hok =>
            obtain ⟨old, k, rfl, hk⟩ := propDec_some hdec
            obtain ⟨-, v, w, hv, -, -, e⟩ := get_ok_inv _ (decK old k) (.u8 0) hok
            exact List.forall_mem_append.mpr ⟨h, List.forall_mem_singleton.mpr (by rw [e, decK_kind hv]; exact hk)⟩
          next => exact h
        next => exact getAnyLoop_known tbl oldOf n0 plen fuel _ acc h
    · exact h

theorem getAny_known (b : Buf) (tbl : PropTable) (oldOf : UInt8 → List PropOcc → Bytes) :
    ∀ o ∈ (b.getAny tbl oldOf).2, (o.id, o.val.kind) ∈ tbl.known := by
  unfold Buf.getAny
  split
  · exact fun _ h => nomatch h
  · exact getAnyLoop_known tbl oldOf _ _ _ _ [] fun _ h => nomatch h

/-- A decode that was at cursor `b` holding `n` list elements is now at `b'` holding `n'`: no abnormal outcome appeared,
bytes were only consumed, and every new element was paid for by a consumed byte. `b.Safe` is a premise inside the
definition, not of the lemmas about it, so that steps compose (`Step.trans`) without threading it. -/
def Step (b : Buf) (n : Nat) (b' : Buf) (n' : Nat) : Prop :=
  b.Safe → b'.Safe ∧ b'.rest.length ≤ b.rest.length ∧ n' + b'.rest.length ≤ n + b.rest.length

theorem Step.rfl {b : Buf} {n : Nat} : Step b n b n := fun h => ⟨h, Nat.le_refl _, Nat.le_refl _⟩

theorem Step.trans {b b' b'' : Buf} {n n' n'' : Nat} (h₁ : Step b n b' n') (h₂ : Step b' n' b'' n'') :
    Step b n b'' n'' := fun h =>
  have a := h₁ h
  have c := h₂ a.1
  ⟨c.1, Nat.le_trans c.2.1 a.2.1, Nat.le_trans c.2.2 a.2.2⟩

theorem Step.add {b b' : Buf} {n n' : Nat} (h : Step b n b' n') (k : Nat) : Step b (n + k) b' (n' + k) := fun hs =>
  have a := h hs
  ⟨a.1, a.2.1, by have := a.2.2; omega⟩

theorem Step.mono {b b' : Buf} {n n' m m' : Nat} (h : Step b n b' n') (hn : n ≤ m) (hm : m' ≤ n') : Step b m b' m' := fun hs =>
  have a := h hs
  ⟨a.1, a.2.1, by have := a.2.2; omega⟩

theorem Step.get {α} {dec : Dec α} (hd : dec.NoPanic) (b : Buf) (old : α) (n : Nat) :
    Step b n (b.get dec old).1 n := fun h =>
  ⟨get_safe b dec old h hd, get_rest_le b dec old, Nat.add_le_add_left (get_rest_le b dec old) n⟩

theorem Step.fail (b : Buf) (e : Err) (n : Nat) : Step b n { b with st := .err e } n := fun _ =>
  ⟨⟨St.noConfusion, St.noConfusion⟩, Nat.le_refl _, Nat.le_refl _⟩

/-- a byte that was consumed pays for an element -/
theorem Step.pay {b b' : Buf} {n : Nat} (h : Step b n b' n) (hlt : b'.rest.length < b.rest.length) :
    Step b n b' (n + 1) := fun hs =>
  have a := h hs
  ⟨a.1, a.2.1, Nat.add_right_comm n 1 _ ▸ Nat.add_le_add_left (Nat.succ_le_of_lt hlt) n⟩

/-- one round reads an identifier and a value and appends at most one occurrence: the identifier's byte pays for it -/
theorem getAnyLoop_step (tbl : PropTable) (oldOf : UInt8 → List PropOcc → Bytes) (n0 plen : Nat) :
    ∀ (fuel : Nat) (b : Buf) (acc : List PropOcc), b.rest.length < fuel →
      Step b acc.length (getAnyLoop tbl oldOf n0 plen fuel b acc).1 (getAnyLoop tbl oldOf n0 plen fuel b acc).2.length
  | 0, _, _, h => absurd h (Nat.not_lt_zero _)
  | fuel + 1, b, acc, hf => by
    rw [getAnyLoop_succ]
    have s1 : Step b acc.length (b.get decU8 0).1 acc.length := .get noPanic_u8 b 0 _
    have hle := get_rest_le b decU8 (0 : UInt8)
    split
    next =>
      split
      next => exact s1
      next hok =>
        have hlt := get_ok_lt decU8_ok_pos b 0 (Decidable.not_not.mp hok)
        split
        next dec hdec =>
          have hle2 := get_rest_le (b.get decU8 0).1 dec (WVal.u8 0)
          have s2 := (s1.trans (.get (propDec_noPanic hdec) _ (.u8 0) _)).pay (Nat.lt_of_le_of_lt hle2 hlt)
          refine (s2.mono (Nat.le_refl _) ?_).trans (getAnyLoop_step tbl oldOf n0 plen fuel _ _ (by omega))
          split
          · rw [List.length_append]; exact Nat.le_refl _
          · exact Nat.le_succ _
        next =>
          exact (s1.trans (.fail _ _ _)).trans (getAnyLoop_step tbl oldOf n0 plen fuel _ acc
            (show (b.get decU8 0).1.rest.length < fuel by omega))
    next => exact .rfl

theorem getAny_step (b : Buf) (tbl : PropTable) (oldOf : UInt8 → List PropOcc → Bytes) :
    Step b 0 (b.getAny tbl oldOf).1 (b.getAny tbl oldOf).2.length := by
  unfold Buf.getAny
  split
  · exact .rfl
  · exact (Step.get noPanic_vb b 0 0).trans (getAnyLoop_step tbl oldOf _ _ _ _ [] (Nat.lt_succ_self _))

theorem getAny_safe (b : Buf) (tbl : PropTable) (oldOf : UInt8 → List PropOcc → Bytes) (h : b.Safe) :
    (b.getAny tbl oldOf).1.Safe ∧ (b.getAny tbl oldOf).2.length + (b.getAny tbl oldOf).1.rest.length ≤ b.rest.length :=
  have a := getAny_step b tbl oldOf h
  ⟨a.1, Nat.zero_add b.rest.length ▸ a.2.2⟩

theorem getAny_atEnd (tbl : PropTable) (oldOf : UInt8 → List PropOcc → Bytes) (st : St) :
    ({ rest := [], st := st } : Buf).getAny tbl oldOf = ({ rest := [], st := st }, []) := by
  simp [Buf.getAny]

theorem getAny_len (tbl : PropTable) (oldOf : UInt8 → List PropOcc → Bytes) (L : Nat) (hL : L < 268435456) (r : Bytes) :
    ({ rest := encVb L ++ r, st := .ok } : Buf).getAny tbl oldOf
      = getAnyLoop tbl oldOf r.length L (r.length + 1) { rest := r, st := .ok } [] := by
  unfold Buf.getAny
  rw [if_neg (by simp [encVb_ne_nil]), get_enc decVb (0 : Nat) L (encVb L) r (encVb_ne_nil _) (by rw [decVb_enc _ hL]; rfl)]

theorem get_u8 (a : UInt8) (rest : Bytes) (old : UInt8) :
    ({ rest := a :: rest, st := .ok } : Buf).get decU8 old = ({ rest := rest, st := .ok }, a) := by
  simp [Buf.get, decU8]

theorem get_u16 (v : UInt16) (rest : Bytes) (old : UInt16) :
    ({ rest := encU16 v ++ rest, st := .ok } : Buf).get decU16 old = ({ rest := rest, st := .ok }, v) :=
  get_enc decU16 old v (encU16 v) rest (by simp [encU16]) (by rw [decU16_enc]; rfl)

theorem get_bin_of (old v : Bytes) (h : v.length < 65536) (hold : v = [] → old = []) (rest : Bytes) :
    ({ rest := encBin v ++ rest, st := .ok } : Buf).get (decBin old) old = ({ rest := rest, st := .ok }, v) :=
  get_enc (decBin old) old v (encBin v) rest (by simp [encBin]) (by rw [decBin_enc_of old v rest h hold]; simp; omega)

theorem get_bin (v : Bytes) (h : v.length < 65536) (rest : Bytes) :
    ({ rest := encBin v ++ rest, st := .ok } : Buf).get (decBin []) [] = ({ rest := rest, st := .ok }, v) :=
  get_bin_of [] v h (fun _ => rfl) rest

theorem get_bin_old (old v : Bytes) (h : v.length < 65536) (hne : v ≠ []) (rest : Bytes) :
    ({ rest := encBin v ++ rest, st := .ok } : Buf).get (decBin old) old = ({ rest := rest, st := .ok }, v) :=
  get_bin_of old v h (fun hv => absurd hv hne) rest

theorem get_raw (d : Bytes) (hne : d ≠ []) (old : Bytes) :
    ({ rest := d, st := .ok } : Buf).get decRaw old = ({ rest := [], st := .ok }, d) := by
  simp [Buf.get, decRaw, hne]

end Mq
