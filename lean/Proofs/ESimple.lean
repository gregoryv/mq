import Props.Domain
/-!
# Proofs.ESimple — E for the acknowledgements, SUBACK/UNSUBACK, pings, DISCONNECT, AUTH, SUBSCRIBE, UNSUBSCRIBE,
CONNACK: the encoder's output is `unparse` of a legal abstract packet with the same accessor view
-/
namespace Mq
open Spec (SPacket Form propsLegal propBytes propSection propVal userPropsOf vvOf)
open Tie (encFields kinds connackFields)

theorem strOK_range (v : Bytes) (h : strOK v) : Spec.valInRange (.bin v) = true := by
  simpa [Spec.valInRange, strOK] using h

theorem FieldsInRange.str {id : UInt8} {v : Bytes} {fs : List (UInt8 × WVal)} (h : strOK v) (t : FieldsInRange fs) :
    FieldsInRange ((id, .bin v) :: fs) :=
  .cons (strOK_range v h) t

/-- the domain's bound on a string is the specification's -/
theorem strOK_spec {v : Bytes} (h : strOK v) : SPacket.strOK v = true := by
  simpa [SPacket.strOK, strOK] using h

def Ack.occs (p : Ack) : List PropOcc := occsOf p.fields ++ upOccs p.userProps

def Ack.abs (k : Nat) (p : Ack) : SPacket :=
  .ack k p.packetID (if p.occs = [] then (if p.reasonCode = 0 then .bare else .reason) else .full) p.reasonCode p.occs

/-- the acknowledgements are written with the shortest form that loses nothing -/
theorem shortestForm (rc : UInt8) (occs : List PropOcc) (props : Bytes) (hprops : props = propBytes occs) :
    ∀ form, form = (if occs = [] then (if rc = 0 then Form.bare else .reason) else .full) →
      (match form with | .bare => [] | .reason => [rc] | .full => [rc] ++ propSection occs)
        = (if rc ≠ 0 ∨ props ≠ [] then [rc] else []) ++ (if props ≠ [] then encVb props.length ++ props else [])
      ∧ SPacket.formLegal form rc occs = true := by
  rintro form rfl
  have hnil : props = [] ↔ occs = [] := by rw [hprops]; exact propBytes_eq_nil _
  by_cases ho : occs = []
  · by_cases hrc : rc = 0 <;> simp [ho, hnil.mpr ho, hrc, SPacket.formLegal]
  · subst hprops
    simp [ho, mt hnil.mp ho, SPacket.formLegal, propSection]

theorem Ack.schema (k : Nat) (hk : 4 ≤ k ∧ k ≤ 7) : schemaOK k Ack.table = true := by
  obtain rfl | rfl | rfl | rfl : k = 4 ∨ k = 5 ∨ k = 6 ∨ k = 7 := by omega
  all_goals decide

theorem E_ack (k : Nat) (p : Ack) (h : p.InDomain k) :
    (Ack.abs k p).Legal ∧ (Ack.abs k p).unparse = p.encode ∧ (Ack.abs k p).kind = k
    ∧ (Ack.abs k p).view = p.view ∧ (Ack.abs k p).firstByte = p.fixed := by
  obtain ⟨hk, hfix, hr, hu, hlen⟩ := h
  obtain ⟨hprops, hleg, hups, hv⟩ := fields_section p.fields p.userProps p.occs rfl (Ack.schema k hk)
    (.str hr .nil) hu (Tie.M2_acks p)
  obtain ⟨hb, hfl⟩ := shortestForm p.reasonCode p.occs p.props hprops _ rfl
  obtain ⟨hps, hrc⟩ := formLegal_reading hfl
  have hbody : (Ack.abs k p).body = p.body := by
    simp only [Ack.abs, SPacket.body, Ack.body, List.append_assoc]
    exact congrArg _ hb
  refine E_of_parts hfix.symm hbody hlen ?_ rfl ?_
  · simp only [Ack.abs, SPacket.legal, hleg, hfl, Bool.and_eq_true, decide_eq_true_eq]
    exact ⟨⟨hk, trivial⟩, trivial⟩
  · simp only [Ack.fields, List.forall_mem_singleton, WVal.dflt, vvOf] at hv
    simp only [Ack.abs, SPacket.view, Ack.view, hps, hrc, hups, hv]

def SubAck.occs (p : SubAck) : List PropOcc := occsOf p.fields ++ upOccs p.userProps
def SubAck.abs (k : Nat) (p : SubAck) : SPacket := .suback k p.packetID p.occs p.reasonCodes

theorem SubAck.schema (k : Nat) (hk : k = 9 ∨ k = 11) : schemaOK k SubAck.table = true := by
  obtain rfl | rfl := hk <;> decide

theorem E_suback_L (k : Nat) (p : SubAck) (h : p.InDomainL k) :
    (SubAck.abs k p).LegalL ∧ (SubAck.abs k p).unparse = p.encode ∧ (SubAck.abs k p).kind = k
    ∧ (SubAck.abs k p).view = p.view ∧ (SubAck.abs k p).firstByte = p.fixed := by
  obtain ⟨hk, hfix, hr, hu, hlen⟩ := h
  obtain ⟨hprops, hleg, hups, hv⟩ := fields_section p.fields p.userProps p.occs rfl (SubAck.schema k hk)
    (.str hr .nil) hu p.props_fields
  have hbody : (SubAck.abs k p).body = p.body := by
    simp only [SubAck.abs, SPacket.body, SubAck.body, hprops, propSection, List.append_assoc]
  refine E_of_parts hfix.symm hbody hlen ?_ rfl ?_
  · simp only [SubAck.abs, SPacket.legalL, hleg, Bool.or_eq_true, beq_iff_eq, Bool.and_true]
    exact hk
  · simp only [SubAck.fields, List.forall_mem_singleton, WVal.dflt, vvOf] at hv
    simp only [SubAck.abs, SPacket.view, SubAck.view, hups, hv]

theorem E_suback (k : Nat) (p : SubAck) (h : p.InDomain k) :
    (SubAck.abs k p).Legal ∧ (SubAck.abs k p).unparse = p.encode ∧ (SubAck.abs k p).kind = k
    ∧ (SubAck.abs k p).view = p.view ∧ (SubAck.abs k p).firstByte = p.fixed := by
  obtain ⟨hk, hfix, hr, hu, hne, hlen⟩ := h
  obtain ⟨⟨hl, hbl⟩, h2⟩ := E_suback_L k p ⟨hk, hfix, hr, hu, hlen⟩
  refine ⟨⟨?_, hbl⟩, h2⟩
  simp only [SubAck.abs, SPacket.legal, SPacket.legalL, Bool.and_eq_true] at hl ⊢
  refine ⟨hl, ?_⟩
  simpa using hne

theorem E_ping (k : Nat) (p : Ping) (h : p.InDomain k) :
    (SPacket.ping k).Legal ∧ (SPacket.ping k).unparse = p.encode ∧ (SPacket.ping k).kind = k ∧ (SPacket.ping k).view = p.view
    ∧ (SPacket.ping k).firstByte = p.fixed := by
  obtain ⟨hk, hfix⟩ := h
  refine E_of_parts (sp := .ping k) hfix.symm rfl (Nat.zero_lt_succ _) ?_ rfl rfl
  rcases hk with rfl | rfl <;> decide

def Disconnect.occs (p : Disconnect) : List PropOcc := occsOf p.fields ++ upOccs p.userProps
def Disconnect.abs (p : Disconnect) : SPacket :=
  .disconnect (if p.reasonCode = 0 ∧ p.occs = [] then .bare else .full) p.reasonCode p.occs

/-- DISCONNECT and AUTH are written bare exactly when the reason code is 0 and there is no property, that is, when the
bare form loses nothing -/
theorem bareOrFull (rc : UInt8) (occs : List PropOcc) (props : Bytes) (hprops : props = propBytes occs) :
    ∀ form, form = (if rc = 0 ∧ occs = [] then Form.bare else .full) →
      (match form with | .bare => [] | .reason => [rc] | .full => [rc] ++ propSection occs)
        = (if rc = 0 ∧ props = [] then [] else [rc] ++ encVb props.length ++ props)
      ∧ SPacket.formLegal form rc occs = true ∧ form ≠ .reason := by
  rintro form rfl
  have hnil : props = [] ↔ occs = [] := by rw [hprops]; exact propBytes_eq_nil _
  by_cases hc : rc = 0 ∧ occs = []
  · simp [hc, hnil.mpr hc.2, SPacket.formLegal]
  · have : ¬ (rc = 0 ∧ props = []) := fun e => hc ⟨e.1, hnil.mp e.2⟩
    simp only [hc, this, if_false]
    subst hprops
    simp [SPacket.formLegal, propSection]

theorem Disconnect.schema : schemaOK 14 Disconnect.table = true := by decide +kernel

theorem E_disconnect (p : Disconnect) (h : p.InDomain) :
    p.abs.Legal ∧ p.abs.unparse = p.encode ∧ p.abs.kind = 14 ∧ p.abs.view = (Packet.disconnect p).view
    ∧ p.abs.firstByte = p.fixed := by
  obtain ⟨hfix, hr1, hr2, hu, hlen⟩ := h
  have hr : FieldsInRange p.fields := .num <| .str hr1 <| .str hr2 .nil
  obtain ⟨hprops, hleg, hups, hv⟩ := fields_section p.fields p.userProps p.occs rfl Disconnect.schema hr hu (Tie.M2_disconnect p)
  obtain ⟨hbody, hfl, hnr⟩ := bareOrFull p.reasonCode p.occs p.props hprops _ rfl
  obtain ⟨hps, hrc⟩ := formLegal_reading hfl
  replace hbody : p.abs.body = p.body := hbody
  refine E_of_parts hfix.symm hbody hlen ?_ rfl ?_
  · simp only [Disconnect.abs, SPacket.legal, hleg, hfl, Bool.and_self]
  · simp only [Disconnect.fields, forall_mem_cons₂, List.forall_mem_singleton, WVal.dflt, vvOf] at hv
    simp only [Disconnect.abs, SPacket.view, Packet.view, Disconnect.view, hps, hrc]
    simp only [hups, hv]

def Auth.occs (p : Auth) : List PropOcc := occsOf p.fields ++ upOccs p.userProps
def Auth.abs (p : Auth) : SPacket :=
  .auth (if p.reasonCode = 0 ∧ p.occs = [] then .bare else .full) p.reasonCode p.occs

theorem Auth.schema : schemaOK 15 Auth.table = true := by decide +kernel

theorem E_auth (p : Auth) (h : p.InDomain) :
    p.abs.Legal ∧ p.abs.unparse = p.encode ∧ p.abs.kind = 15 ∧ p.abs.view = (Packet.auth p).view
    ∧ p.abs.firstByte = p.fixed := by
  obtain ⟨hfix, hr1, hr2, hr3, hu, hlen⟩ := h
  have hr : FieldsInRange p.fields := .str hr2 <| .str hr3 <| .str hr1 .nil
  obtain ⟨hprops, hleg, hups, hv⟩ := fields_section p.fields p.userProps p.occs rfl Auth.schema hr hu (Tie.M2_auth p)
  obtain ⟨hbody, hfl, hnr⟩ := bareOrFull p.reasonCode p.occs p.props hprops _ rfl
  obtain ⟨hps, hrc⟩ := formLegal_reading hfl
  replace hbody : p.abs.body = p.body := hbody
  refine E_of_parts hfix.symm hbody hlen ?_ rfl ?_
  · simp only [Auth.abs, SPacket.legal, hleg, hfl, Bool.and_self, Bool.true_and, bne_iff_ne]
    exact hnr
  · simp only [Auth.fields, forall_mem_cons₂, List.forall_mem_singleton, WVal.dflt, vvOf] at hv
    simp only [Auth.abs, SPacket.view, Packet.view, Auth.view, hps, hrc]
    simp only [hups, hv]

def Subscribe.occs (p : Subscribe) : List PropOcc := occsOf p.fields ++ upOccs p.userProps
def Subscribe.abs (p : Subscribe) : SPacket :=
  .subscribe p.packetID p.occs (p.filters.map fun f => (f.filter, f.options))

theorem Subscribe.schema (p : Subscribe) : schemaOK 8 (kinds p.fields) = true := by
  unfold Subscribe.fields
  cases p.subscriptionID with
  | none => exact (by decide : schemaOK 8 [] = true)
  | some v => exact (by decide : schemaOK 8 [(0x0b, .vb)] = true)

/-- the one field is the subscription identifier, in range when there is one -/
theorem Subscribe.fieldsInRange (p : Subscribe) (h : ∀ v, p.subscriptionID = some v → 1 ≤ v ∧ v < 268435456) :
    FieldsInRange p.fields := by
  unfold Subscribe.fields
  cases hs : p.subscriptionID with
  | none => exact .nil
  | some v => exact .cons (decide_eq_true (h v hs).2) .nil

/-- and it is read back: written when there is one (not 0, which would be left out), absent otherwise -/
theorem Subscribe.subIDLast_occs (p : Subscribe) (h : ∀ v, p.subscriptionID = some v → 1 ≤ v ∧ v < 268435456) :
    Spec.subIDLast p.occs = p.subscriptionID := by
  unfold Subscribe.occs Subscribe.fields
  rw [subIDLast_ups]
  cases hs : p.subscriptionID with
  | none => rfl
  | some v =>
    have hv : v ≠ 0 := by have := (h v hs).1; omega
    have : occsOf [((0x0b : UInt8), WVal.vb v)] = [⟨0x0b, .vb v⟩] := by simp [occsOf, WVal.isZero, hv]
    simp only [this, Spec.subIDLast, List.foldl_cons, List.foldl_nil, if_true]

theorem E_subscribe_L (p : Subscribe) (h : p.InDomainL) :
    p.abs.LegalL ∧ p.abs.unparse = p.encode ∧ p.abs.view = (Packet.subscribe p).view := by
  obtain ⟨hfix, hsub, hu, hne, hfs, hlen⟩ := h
  obtain ⟨hprops, hleg, hups, -⟩ := fields_section p.fields p.userProps p.occs rfl p.schema (p.fieldsInRange hsub) hu
    p.props_fields
  have hpay : (p.filters.map fun f => (f.filter, f.options)).flatMap (fun f => encBin f.1 ++ [f.2]) = p.payload := by
    simp only [Subscribe.payload, List.flatMap_map]; rfl
  have hbody : p.abs.body = p.body := by
    simp only [Subscribe.abs, SPacket.body, Subscribe.body, hprops, propSection, hpay, List.append_assoc]
  refine ⟨⟨?_, hbody ▸ hlen⟩, unparse_of_body p.abs hfix.symm hbody, ?_⟩
  · simp only [Subscribe.abs, SPacket.legalL, hleg, Bool.true_and, Bool.and_eq_true, List.all_eq_true, List.forall_mem_map]
    exact ⟨by simpa using hne, fun g hg => strOK_spec (hfs g hg)⟩
  · simp only [Subscribe.abs, SPacket.view, Packet.view, Subscribe.view, hups, p.subIDLast_occs hsub,
      Subscribe.subscriptionIDInt]
    cases p.subscriptionID <;> rfl

theorem E_subscribe (p : Subscribe) (h : p.InDomain) :
    p.abs.Legal ∧ p.abs.unparse = p.encode ∧ p.abs.kind = 8 ∧ p.abs.view = (Packet.subscribe p).view
    ∧ p.abs.firstByte = p.fixed := by
  obtain ⟨hfix, hsub, hu, hne, hfs, hlen⟩ := h
  obtain ⟨⟨hl, hbl⟩, h2, h3⟩ := E_subscribe_L p ⟨hfix, hsub, hu, hne, fun f hf => (hfs f hf).1, hlen⟩
  refine ⟨⟨?_, hbl⟩, h2, rfl, h3, hfix.symm⟩
  simp only [Subscribe.abs, SPacket.legal, SPacket.legalL, Bool.and_eq_true, List.all_eq_true, List.forall_mem_map,
    beq_iff_eq, bne_iff_ne, ne_eq] at hl ⊢
  exact ⟨hl.1, fun g hg => ⟨⟨⟨hl.2 g hg, (hfs g hg).2.1⟩, (hfs g hg).2.2.1⟩, (hfs g hg).2.2.2⟩⟩

def Unsubscribe.abs (p : Unsubscribe) : SPacket := .unsubscribe p.packetID (upOccs p.userProps) p.filters

theorem Unsubscribe.schema : schemaOK 10 [] = true := by decide

theorem E_unsubscribe (p : Unsubscribe) (h : p.InDomain) :
    p.abs.Legal ∧ p.abs.unparse = p.encode ∧ p.abs.kind = 10 ∧ p.abs.view = (Packet.unsubscribe p).view
    ∧ p.abs.firstByte = p.fixed := by
  obtain ⟨hfix, hu, hne, hfs, hlen⟩ := h
  obtain ⟨hprops, hleg, hups, -⟩ := fields_section [] p.userProps (upOccs p.userProps) rfl Unsubscribe.schema .nil hu
    (props := p.props) rfl
  have hbody : p.abs.body = p.body := by
    simp only [Unsubscribe.abs, SPacket.body, Unsubscribe.body, hprops, propSection, Unsubscribe.payload, List.append_assoc]
  refine E_of_parts hfix.symm hbody hlen ?_ rfl ?_
  · simp only [Unsubscribe.abs, SPacket.legal, hleg, Bool.true_and, Bool.and_eq_true, List.all_eq_true]
    constructor
    · simpa using hne
    · exact fun f hf => strOK_spec (hfs f hf)
  · simp only [Unsubscribe.abs, SPacket.view, Packet.view, Unsubscribe.view, hups]

def ConnAck.occs (p : ConnAck) : List PropOcc := occsOf (connackFields p) ++ upOccs p.userProps
def ConnAck.abs (p : ConnAck) : SPacket := .connack (p.flags == 1) p.reasonCode p.occs

theorem ConnAck.schema : schemaOK 2 ConnAck.table = true := by decide +kernel

theorem E_connack (p : ConnAck) (h : p.InDomain) :
    p.abs.Legal ∧ p.abs.unparse = p.encode ∧ p.abs.kind = 2 ∧ p.abs.view = (Packet.connack p).view
    ∧ p.abs.firstByte = p.fixed := by
  obtain ⟨hfix, hfl, r1, r2, r3, r4, r5, r6, hu, hlen⟩ := h
  have hr : FieldsInRange (connackFields p) :=
    .num <| .num <| .num <| .num <| .num <| .str r1 <| .num <| .str r2 <| .num <| .num <| .num <| .num <| .str r3 <| .str r4
      <| .str r5 <| .str r6 .nil
  obtain ⟨hprops, hleg, hups, hv⟩ := fields_section (connackFields p) p.userProps p.occs rfl ConnAck.schema hr hu (Tie.M2_connack p)
  -- a flags byte that is 0 or 1 is its lowest bit: as the byte written, as the number and as the flag the accessors show
  have hflag : (if (p.flags == 1) = true then (1 : UInt8) else 0) = p.flags
      ∧ (if (p.flags == 1) = true then 1 else 0) = p.flags.toNat ∧ p.sessionPresent = (p.flags == 1) := by
    rcases hfl with h | h <;> rw [ConnAck.sessionPresent, h] <;> decide
  have hbody : p.abs.body = p.body := by
    simp only [ConnAck.abs, SPacket.body, ConnAck.body, hprops, propSection, hflag.1, List.append_assoc]
  refine E_of_parts hfix.symm hbody hlen ?_ rfl ?_
  · simp only [ConnAck.abs, SPacket.legal, hleg]
  · simp only [connackFields, forall_mem_cons₂, List.forall_mem_singleton, WVal.dflt, vvOf] at hv
    simp only [ConnAck.abs, SPacket.view, Packet.view, ConnAck.view, hups, hv, hflag.2]

end Mq
