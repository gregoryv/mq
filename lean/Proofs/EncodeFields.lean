import Mq.Packet
/-!
# Proofs.EncodeFields — the model's `props` of each packet type as a list of (identifier, value) fields

`T.props` writes its optional properties one `encPropOpt` after the other; here the same is `encFields` of a field
list, by unfolding (`M2_*`, `T.props_fields`: the model's half of the comparison whose source half is `Tie.T2_*`). The
encoder proofs (Proofs.E*) reason about the lists, the decoder proofs read the fold of `T.applyOcc` through the same lists
(Proofs.Fields); Proofs.Tie.Encode compares their (identifier, wire type) pairs with
the order of the `fillProp` calls in the source. The four lists CONNECT, its will, CONNACK and PUBLISH write from, and the `M2_*`
lemmas, stand in the namespace `Tie` because the statements of the source tie name them there.
-/
namespace Mq

def Ack.fields (p : Ack) : List (UInt8 × WVal) := [(0x1f, .bin p.reason)]
def SubAck.fields (p : SubAck) : List (UInt8 × WVal) := [(0x1f, .bin p.reasonString)]
def Disconnect.fields (p : Disconnect) : List (UInt8 × WVal) :=
  [(0x11, .u32 p.sessionExpiryInterval), (0x1f, .bin p.reasonString), (0x1c, .bin p.serverReference)]
def Auth.fields (p : Auth) : List (UInt8 × WVal) :=
  [(0x15, .bin p.authMethod), (0x16, .bin p.authData), (0x1f, .bin p.reasonString)]
def Subscribe.fields (p : Subscribe) : List (UInt8 × WVal) :=
  match p.subscriptionID with
  | some v => [(0x0b, .vb v)]
  | none => []

end Mq
namespace Mq.Tie
open Mq

def encFields (fs : List (UInt8 × WVal)) : Bytes := fs.flatMap fun f => encPropOpt f.1 f.2
def kinds (fs : List (UInt8 × WVal)) : List (UInt8 × WKind) := fs.map fun f => (f.1, f.2.kind)

def connectFields (p : Connect) : List (UInt8 × WVal) :=
  [(0x21, .u16 p.receiveMax), (0x11, .u32 p.sessionExpiryInterval), (0x27, .u32 p.maxPacketSize),
   (0x22, .u16 p.topicAliasMax), (0x19, .bool p.requestResponseInfo), (0x17, .bool p.requestProblemInfo),
   (0x15, .bin p.authMethod), (0x16, .bin p.authData)]
theorem M2_connect (p : Connect) : p.props = encFields (connectFields p) ++ encUserProps p.userProps := by
  simp [Connect.props, encFields, connectFields]

def willFields (p : Connect) (w : Publish) : List (UInt8 × WVal) :=
  [(0x18, .u32 p.willDelayInterval), (0x01, .bool w.payloadFormat), (0x02, .u32 w.messageExpiryInterval),
   (0x03, .bin w.contentType), (0x08, .bin w.responseTopic), (0x09, .bin w.correlationData)]
theorem M2_will (p : Connect) (w : Publish) : p.willProps w = encFields (willFields p w) ++ encUserProps w.userProps := by
  simp [Connect.willProps, encFields, willFields]

def connackFields (p : ConnAck) : List (UInt8 × WVal) :=
  [(0x21, .u16 p.receiveMax), (0x11, .u32 p.sessionExpiryInterval), (0x24, .u8 p.maxQoS),
   (0x25, .bool p.retainAvailable), (0x27, .u32 p.maxPacketSize), (0x12, .bin p.assignedClientID),
   (0x22, .u16 p.topicAliasMax), (0x1f, .bin p.reasonString), (0x28, .bool p.wildcardSubAvailable),
   (0x29, .bool p.subIdentifiersAvailable), (0x2a, .bool p.sharedSubAvailable), (0x13, .u16 p.serverKeepAlive),
   (0x1a, .bin p.responseInformation), (0x1c, .bin p.serverReference), (0x15, .bin p.authMethod),
   (0x16, .bin p.authData)]
theorem M2_connack (p : ConnAck) : p.props = encFields (connackFields p) ++ encUserProps p.userProps := by
  simp [ConnAck.props, encFields, connackFields]

def publishFields (p : Publish) : List (UInt8 × WVal) :=
  [(0x01, .bool p.payloadFormat), (0x02, .u32 p.messageExpiryInterval), (0x23, .u16 p.topicAlias),
   (0x08, .bin p.responseTopic), (0x09, .bin p.correlationData), (0x03, .bin p.contentType)]
theorem M2_publish (p : Publish) :
    p.props = encFields (publishFields p) ++ encUserProps p.userProps
      ++ p.subscriptionIDs.flatMap (fun v => encPropOpt 0x0b (.vb v.toNat)) := by
  simp [Publish.props, encFields, publishFields]

theorem M2_acks (p : Ack) : p.props = encFields [(0x1f, .bin p.reason)] ++ encUserProps p.userProps := by
  simp [Ack.props, encFields]

theorem M2_disconnect (p : Disconnect) :
    p.props = encFields [(0x11, .u32 p.sessionExpiryInterval), (0x1f, .bin p.reasonString), (0x1c, .bin p.serverReference)]
      ++ encUserProps p.userProps := by
  simp [Disconnect.props, encFields]

theorem M2_auth (p : Auth) :
    p.props = encFields [(0x15, .bin p.authMethod), (0x16, .bin p.authData), (0x1f, .bin p.reasonString)]
      ++ encUserProps p.userProps := by
  simp [Auth.props, encFields]

end Mq.Tie
namespace Mq
open Tie (encFields)

theorem SubAck.props_fields (p : SubAck) : p.props = encFields p.fields ++ encUserProps p.userProps := by
  simp [SubAck.props, encFields, SubAck.fields]

theorem Subscribe.props_fields (p : Subscribe) : p.props = encFields p.fields ++ encUserProps p.userProps := by
  unfold Subscribe.props Subscribe.fields
  cases p.subscriptionID <;> simp [encFields]

end Mq
