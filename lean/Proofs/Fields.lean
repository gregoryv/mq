import Proofs.SpecBridge
import Proofs.ApplyOcc
import Proofs.EncodeFields
/-!
# Proofs.Fields — what the fold of `applyOcc` over a well-typed property list leaves in a packet

The field list the encoder of `T` writes its properties from (`T.fields`, `Tie.connackFields` …: identifier and value,
Proofs.EncodeFields) also says which field of `T` the decoder stores which identifier in. That the fold of `T.applyOcc`
leaves in every field what `Spec.propVal` reads is one general theorem, `fold_fields`; what it asks of a particular
`T` (`Stores`) is an equation between two finite tables, which holds by evaluation. `Folded` is what a D proof takes from
here: the fields' readings, the fields no property maps to, the user properties; on a type's own field list
`simp only [Folded, readings, T.fields, List.map, vvOf, List.cons.injEq, Prod.mk.injEq, true_and, and_true]` turns it into
one equation per field, with which the decoded packet's view is rewritten into the specification's. SUBSCRIBE's one
property field is an `Option` and is read directly (`Subscribe.fold_subID`); UNSUBSCRIBE has none.
The eight `T.fold_same#` at the end say of single fields what `foldl_same T.applyOcc_nonProps` says of all.
-/
namespace Mq
open Spec (propVal userPropsOf vvOf)

theorem PropOk.mem_known {tbl : PropTable} {o : PropOcc} (h : PropOk tbl o) : (o.id, o.val.kind) ∈ tbl.known := by
  rcases h.2 with h | ⟨_, ⟨h1, h2⟩ | ⟨h1, h2⟩⟩
  · obtain ⟨l₁, l₂, e, _⟩ := List.lookup_eq_some_iff.mp h
    exact List.mem_append_left _ (e ▸ by simp)
  · simp [PropTable.known, h1, h2]
  · simp [PropTable.known, h1, h2]

/-- a field list as the specification's view reads it -/
def readings (fs : List (UInt8 × WVal)) : List (UInt8 × VV) := fs.map fun f => (f.1, vvOf f.2)

/-- One step of `f` stores an occurrence the table admits into the field of its identifier and leaves the other fields
alone: for every entry of the table, the fields after the step are the fields before with the entry's identifier given the new
value. For a concrete `f`, table and field list both sides are lists of closed shape whose entries compute (the identifiers are
literals, so every `if` of `f` is decided), hence `fun _ _ => rfl`. -/
def Stores {P : Type} (tbl : PropTable) (fields : P → List (UInt8 × WVal)) (f : P → PropOcc → P) : Prop :=
  ∀ (u : WVal.Any) (p : P),
    tbl.known.map (fun e => readings (fields (f p ⟨e.1, u.pick e.2⟩)))
      = tbl.known.map (fun e => (readings (fields p)).map fun r => (r.1, if e.1 = r.1 then vvOf (u.pick e.2) else r.2))

/-- Of the occurrences only that their kinds are those of the table is used, not that their values are in range. -/
theorem fold_fields {P : Type} {f : P → PropOcc → P} {tbl : PropTable} {fields : P → List (UInt8 × WVal)}
    (H : Stores tbl fields f) (ps : List PropOcc) (hk : ∀ o ∈ ps, (o.id, o.val.kind) ∈ tbl.known) (p : P) :
    readings (fields (ps.foldl f p)) = (readings (fields p)).map fun r => (r.1, propVal ps r.1 r.2) := by
  induction ps generalizing p with
  | nil => exact (List.map_id' _).symm
  | cons o t ih =>
    rw [List.foldl_cons, ih (fun x hx => hk x (List.mem_cons_of_mem _ hx)),
      PropTable.known_elim (C := fun o => readings (fields (f p o))
          = (readings (fields p)).map fun r => (r.1, if o.id = r.1 then vvOf o.val else r.2))
        (fun e he u => List.map_inj_left.mp (H u p) e he) (hk o List.mem_cons_self), List.map_map]
    rfl

/-- the specification's `userPropsOf` is the model's `occPairs` -/
theorem fold_userProps {P : Type} {f : P → PropOcc → P} {g : P → UserProps}
    (h : ∀ p o, g (f p o) = g p ++ occPairs [o]) (ps : List PropOcc) (p : P) :
    g (ps.foldl f p) = g p ++ userPropsOf ps :=
  fold_filterMap h ps p

/-- what a decoder's property stage leaves in a packet, in the specification's terms: every property field reads as
`propVal`, the fields no property maps to (`np`) are untouched, the user properties are appended -/
def Folded {P N : Type} (fields : P → List (UInt8 × WVal)) (np : P → N) (ups : P → UserProps) (ps : List PropOcc) (p q : P) :
    Prop :=
  readings (fields q) = (readings (fields p)).map (fun r => (r.1, propVal ps r.1 r.2))
    ∧ np q = np p ∧ ups q = ups p ++ userPropsOf ps

theorem fold_reads {P N : Type} {f : P → PropOcc → P} {tbl : PropTable} {fields : P → List (UInt8 × WVal)} {np : P → N}
    {ups : P → UserProps} (H : Stores tbl fields f) (hnp : ∀ p o, np (f p o) = np p) (hups : ∀ p o, ups (f p o) = ups p ++ occPairs [o])
    (ps : List PropOcc) (hok : ∀ o ∈ ps, PropOk tbl o) (p : P) :
    Folded fields np ups ps p (ps.foldl f p) :=
  ⟨fold_fields H ps (fun o ho => (hok o ho).mem_known) p, foldl_same hnp ps p, fold_userProps hups ps p⟩

theorem ConnAck.fold_reads (ps : List PropOcc) (hok : ∀ o ∈ ps, PropOk ConnAck.table o) (p : ConnAck) :
    Folded Tie.connackFields ConnAck.nonProps (·.userProps) ps p (ps.foldl ConnAck.applyOcc p) :=
  Mq.fold_reads (fun _ _ => rfl) ConnAck.applyOcc_nonProps ConnAck.applyOcc_userProps ps hok p

theorem Connect.fold_reads (ps : List PropOcc) (hok : ∀ o ∈ ps, PropOk Connect.table o) (p : Connect) :
    Folded Tie.connectFields Connect.nonProps (·.userProps) ps p (ps.foldl Connect.applyOcc p) :=
  Mq.fold_reads (fun _ _ => rfl) Connect.applyOcc_nonProps Connect.applyOcc_userProps ps hok p

/-- the will's fields are read off the pair the will block folds over: the delay interval, which CONNECT keeps, and the
will message -/
def Will.fields (s : UInt32 × Publish) : List (UInt8 × WVal) := Tie.willFields { willDelayInterval := s.1 } s.2

theorem Will.fold_reads (ps : List PropOcc) (hok : ∀ o ∈ ps, PropOk Connect.willTable o) (p : UInt32 × Publish) :
    Folded Will.fields Will.nonProps (·.2.userProps) ps p (ps.foldl Connect.applyWillOcc p) :=
  Mq.fold_reads (fun _ _ => rfl) Will.applyOcc_nonProps Will.applyOcc_userProps ps hok p

theorem Publish.fold_reads (ps : List PropOcc) (hok : ∀ o ∈ ps, PropOk Publish.table o) (p : Publish) :
    Folded Tie.publishFields Publish.nonProps (·.userProps) ps p (ps.foldl Publish.applyOcc p) :=
  Mq.fold_reads (fun _ _ => rfl) Publish.applyOcc_nonProps Publish.applyOcc_userProps ps hok p

theorem Ack.fold_reads (ps : List PropOcc) (hok : ∀ o ∈ ps, PropOk Ack.table o) (p : Ack) :
    Folded Ack.fields Ack.nonProps (·.userProps) ps p (ps.foldl Ack.applyOcc p) :=
  Mq.fold_reads (fun _ _ => rfl) Ack.applyOcc_nonProps Ack.applyOcc_userProps ps hok p

theorem SubAck.fold_reads (ps : List PropOcc) (hok : ∀ o ∈ ps, PropOk SubAck.table o) (p : SubAck) :
    Folded SubAck.fields SubAck.nonProps (·.userProps) ps p (ps.foldl SubAck.applyOcc p) :=
  Mq.fold_reads (fun _ _ => rfl) SubAck.applyOcc_nonProps SubAck.applyOcc_userProps ps hok p

theorem Disconnect.fold_reads (ps : List PropOcc) (hok : ∀ o ∈ ps, PropOk Disconnect.table o) (p : Disconnect) :
    Folded Disconnect.fields Disconnect.nonProps (·.userProps) ps p (ps.foldl Disconnect.applyOcc p) :=
  Mq.fold_reads (fun _ _ => rfl) Disconnect.applyOcc_nonProps Disconnect.applyOcc_userProps ps hok p

theorem Auth.fold_reads (ps : List PropOcc) (hok : ∀ o ∈ ps, PropOk Auth.table o) (p : Auth) :
    Folded Auth.fields Auth.nonProps (·.userProps) ps p (ps.foldl Auth.applyOcc p) :=
  Mq.fold_reads (fun _ _ => rfl) Auth.applyOcc_nonProps Auth.applyOcc_userProps ps hok p

theorem Ack.fold_same0 (ps : List PropOcc) (p : Ack) : (fun (p : Ack) => p.fixed) (ps.foldl Ack.applyOcc p) = (fun (p : Ack) => p.fixed) p :=
  congrArg (·.1) (foldl_same Ack.applyOcc_nonProps ps p)

theorem Auth.fold_same0 (ps : List PropOcc) (p : Auth) : (fun (p : Auth) => p.fixed) (ps.foldl Auth.applyOcc p) = (fun (p : Auth) => p.fixed) p :=
  congrArg (·.1) (foldl_same Auth.applyOcc_nonProps ps p)

theorem ConnAck.fold_same2 (ps : List PropOcc) (p : ConnAck) : (fun (p : ConnAck) => p.fixed) (ps.foldl ConnAck.applyOcc p) = (fun (p : ConnAck) => p.fixed) p :=
  congrArg (·.1) (foldl_same ConnAck.applyOcc_nonProps ps p)

theorem Disconnect.fold_same0 (ps : List PropOcc) (p : Disconnect) : (fun (p : Disconnect) => p.fixed) (ps.foldl Disconnect.applyOcc p) = (fun (p : Disconnect) => p.fixed) p :=
  congrArg (·.1) (foldl_same Disconnect.applyOcc_nonProps ps p)

theorem SubAck.fold_same0 (ps : List PropOcc) (p : SubAck) : (fun (p : SubAck) => p.fixed) (ps.foldl SubAck.applyOcc p) = (fun (p : SubAck) => p.fixed) p :=
  congrArg (·.1) (foldl_same SubAck.applyOcc_nonProps ps p)

theorem SubAck.fold_same2 (ps : List PropOcc) (p : SubAck) : (fun (p : SubAck) => p.reasonCodes) (ps.foldl SubAck.applyOcc p) = (fun (p : SubAck) => p.reasonCodes) p :=
  congrArg (·.2.1) (foldl_same SubAck.applyOcc_nonProps ps p)

theorem Subscribe.fold_same0 (ps : List PropOcc) (p : Subscribe) : (fun (p : Subscribe) => p.fixed) (ps.foldl Subscribe.applyOcc p) = (fun (p : Subscribe) => p.fixed) p :=
  congrArg (·.1) (foldl_same Subscribe.applyOcc_nonProps ps p)

theorem Unsubscribe.fold_same0 (ps : List PropOcc) (p : Unsubscribe) : (fun (p : Unsubscribe) => p.fixed) (ps.foldl Unsubscribe.applyOcc p) = (fun (p : Unsubscribe) => p.fixed) p :=
  congrArg (·.1) (foldl_same Unsubscribe.applyOcc_nonProps ps p)

end Mq
