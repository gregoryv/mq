import Proofs.Reads
import Proofs.Reject
/-!
# Proofs.Cut — a body cut strictly inside a field makes a list of decoder stages fail

Three things are said of a stage: it keeps a failed cursor failed (`Sticky`); on the encoding of its fields, followed
by anything, it consumes exactly those bytes (`Reads`, from `Proofs.Reads`); on that encoding cut at an interior
position of its field map, with nothing following, it fails (`Cuts`). `Fails` composes them along one input: the stages
in front read their fields, one stage fails, the later ones keep the failure; it is also used where a stage fails for
another reason than a cut (a malformed property). `Fails.cut_cons` is its one step for a cut, the only place where positions
are split and `take` is pushed through `++`; `Chain` is `Fails` at every interior position of a body.
-/
namespace Mq
open Spec (propSection StrictlyInside)

theorem strictlyInside_nil (k : Nat) : ¬ StrictlyInside [] k := by
  rintro ⟨pre, f, post, h, _⟩
  cases pre <;> simp at h

theorem strictlyInside_cons (f : Nat × Bool) (rest : List (Nat × Bool)) (k : Nat) (h : StrictlyInside (f :: rest) k) :
    (f.2 = true ∧ 0 < k ∧ k < f.1) ∨ (f.1 < k ∧ StrictlyInside rest (k - f.1)) := by
  obtain ⟨pre, g, post, hl, hg, h1, h2⟩ := h
  cases pre with
  | nil =>
    simp only [List.nil_append, List.cons.injEq] at hl
    obtain ⟨rfl, _⟩ := hl
    left; simp only [List.map_nil, List.sum_nil, Nat.zero_add] at h1 h2; exact ⟨hg, h1, h2⟩
  | cons p pre =>
    simp only [List.cons_append, List.cons.injEq] at hl
    obtain ⟨rfl, rfl⟩ := hl
    simp only [List.map_cons, List.sum_cons] at h1 h2
    right
    exact ⟨by omega, pre, g, post, rfl, hg, by omega, by omega⟩

theorem strictlyInside_cons_add (f : Nat × Bool) (rest : List (Nat × Bool)) (k : Nat) (h : StrictlyInside (f :: rest) k) :
    (f.2 = true ∧ 0 < k ∧ k < f.1) ∨ (∃ k', k = f.1 + k' ∧ StrictlyInside rest k') := by
  rcases strictlyInside_cons f rest k h with h1 | ⟨h1, h2⟩
  · exact Or.inl h1
  · exact Or.inr ⟨k - f.1, by omega, h2⟩

theorem _root_.Spec.StrictlyInside.pos {l : List (Nat × Bool)} {k : Nat} (h : StrictlyInside l k) : 0 < k := by
  obtain ⟨_, _, _, _, _, h1, _⟩ := h; omega

theorem _root_.Spec.StrictlyInside.lt {l : List (Nat × Bool)} {k : Nat} (h : StrictlyInside l k) :
    k < (l.map (·.1)).sum := by
  obtain ⟨pre, f, post, rfl, _, _, h2⟩ := h
  simp only [List.map_append, List.map_cons, List.sum_append, List.sum_cons]; omega

theorem _root_.Spec.StrictlyInside.append_right (l : List (Nat × Bool)) {m : List (Nat × Bool)} {k : Nat}
    (h : StrictlyInside m k) : StrictlyInside (l ++ m) ((l.map (·.1)).sum + k) := by
  obtain ⟨pre, f, post, rfl, hf, h1, h2⟩ := h
  refine ⟨l ++ pre, f, post, by simp, hf, ?_, ?_⟩ <;>
    simp only [List.map_append, List.sum_append] <;> omega

theorem strictlyInside_append {l m : List (Nat × Bool)} {k : Nat} (h : StrictlyInside (l ++ m) k) :
    StrictlyInside l k ∨ ∃ k', k = (l.map (·.1)).sum + k' ∧ StrictlyInside m k' := by
  induction l generalizing k with
  | nil => exact .inr ⟨k, by simp, h⟩
  | cons f l ih =>
    rcases strictlyInside_cons_add f (l ++ m) k h with ⟨hf, h1, h2⟩ | ⟨k1, rfl, h'⟩
    · exact .inl ⟨[], f, l, rfl, hf, by simpa using h1, by simpa using h2⟩
    · rcases ih h' with hl | ⟨k', rfl, hm⟩
      · exact .inl (by simpa using hl.append_right [f])
      · exact .inr ⟨k', by simp only [List.map_cons, List.sum_cons]; omega, hm⟩

theorem strictlyInside_single {n : Nat} {b : Bool} {k : Nat} (h : StrictlyInside [(n, b)] k) :
    b = true ∧ 0 < k ∧ k < n := by
  rcases strictlyInside_cons _ _ _ h with h | ⟨_, h⟩
  · exact h
  · exact absurd h (strictlyInside_nil _)

theorem strictlyInside_ones {α} (l : List α) (c : Nat) : ¬ StrictlyInside (l.map fun _ => ((1 : Nat), true)) c := by
  induction l generalizing c with
  | nil => exact strictlyInside_nil _
  | cons a t ih =>
    intro h
    rcases strictlyInside_cons _ _ _ h with ⟨_, h5, h6⟩ | ⟨_, hc⟩
    · simp only [] at h5 h6; omega
    · exact ih _ hc

theorem take_pre_add0 (pre f : Bytes) (j : Nat) : (pre ++ f).take (pre.length + j) = pre ++ f.take j :=
  List.take_length_add_append j

theorem take_ne_nil_of_inside (lens : List (Nat × Bool)) (body : Bytes) (c : Nat) (h : StrictlyInside lens c)
    (hb : body ≠ []) : body.take c ≠ [] :=
  take_ne_nil body c h.pos hb

theorem get_u16_cut (v old : UInt16) (j : Nat) (hj0 : 0 < j) (hj : j < 2) :
    ({ rest := (encU16 v).take j, st := .ok } : Buf).get decU16 old = ({ rest := (encU16 v).take j, st := .err .missing }, old) :=
  get_err_val decU16 old _ _ (take_ne_nil _ j hj0 (by simp [encU16]))
    (decU16_short _ (by simp [encU16, List.length_take]; omega))

theorem get_bin_cut (v old oldv : Bytes) (hv : v.length < 65536) (j : Nat) (hj0 : 0 < j) (hj : j < (encBin v).length) :
    ({ rest := (encBin v).take j, st := .ok } : Buf).get (decBin old) oldv
      = ({ rest := (encBin v).take j, st := .err .missing }, oldv) :=
  get_err_val (decBin old) oldv _ _ (take_ne_nil _ j hj0 (by simp [encBin])) (decBin_prefix old v hv j hj)

theorem getAny_section_cut (tbl : PropTable) (oldOf : UInt8 → List PropOcc → Bytes) (ps : List PropOcc)
    (hlen : (propSection ps).length < 268435456) (j : Nat) (h0 : 0 < j) (hj : j < (propSection ps).length) :
    (({ rest := (propSection ps).take j, st := .ok } : Buf).getAny tbl oldOf).1.Failed :=
  getAny_truncated tbl oldOf (Spec.propBytes ps) (Nat.lt_of_le_of_lt (section_len_le ps) hlen) j h0 hj

theorem LoopEq.failed {β : Type} {body : Buf → Buf × β} {loop : Nat → Buf → List β → Buf × List β} (hs : LoopEq body loop)
    (hsticky : ∀ b, b.Failed → (body b).1.Failed) (fuel : Nat) (b : Buf) (acc : List β) (h : b.Failed) (hf : 0 < fuel) :
    (loop fuel b acc).1.Failed := by
  obtain ⟨fuel, rfl⟩ := Nat.exists_eq_add_one.mpr hf
  rw [hs, if_pos (hsticky b h).not_ok]
  exact hsticky b h

/-- the loop reads the complete items before the cut, a unit of fuel for each, and its body fails at the cut one -/
theorem LoopEq.cut {β γ : Type} {body : Buf → Buf × β} {loop : Nat → Buf → List β → Buf × List β} (hs : LoopEq body loop)
    {enc : γ → Bytes} {mk : γ → β} {lens : γ → List (Nat × Bool)}
    (hlen : ∀ g, (enc g).length = ((lens g).map (·.1)).sum) (hpos : ∀ g, 0 < (enc g).length) :
    ∀ (fs : List γ) (c : Nat) (acc : List β) (fuel : Nat),
      (∀ g ∈ fs, ∀ rest, body { rest := enc g ++ rest, st := .ok } = ({ rest := rest, st := .ok }, mk g)) →
      (∀ g ∈ fs, ∀ k, StrictlyInside (lens g) k → (body { rest := (enc g).take k, st := .ok }).1.Failed) →
      StrictlyInside (fs.flatMap lens) c → ((fs.flatMap enc).take c).length < fuel →
      (loop fuel { rest := (fs.flatMap enc).take c, st := .ok } acc).1.Failed := by
  intro fs
  induction fs with
  | nil => intro c _ _ _ _ h; exact absurd h (strictlyInside_nil _)
  | cons f fs ih =>
    intro c acc fuel hr hcut hc hfuel
    obtain ⟨fuel, rfl⟩ := Nat.exists_eq_add_one.mpr (Nat.zero_lt_of_lt hfuel)
    simp only [List.flatMap_cons] at hc hfuel ⊢
    rcases strictlyInside_append hc with h | ⟨c', rfl, h⟩
    · -- inside this item
      have hf := hcut f (by simp) c h
      rw [List.take_append_of_le_length (by have := h.lt; have := hlen f; omega), hs, if_pos hf.not_ok]
      exact hf
    · -- past it: the loop goes round
      rw [← hlen f, take_pre_add0] at hfuel ⊢
      have hne : ¬ ((fs.flatMap enc).take c' = []) := take_ne_nil _ _ h.pos (by
        cases fs with
        | nil => exact absurd h (strictlyInside_nil _)
        | cons g t =>
          intro e
          have := hpos g
          simp only [List.flatMap_cons, List.append_eq_nil_iff] at e
          rw [e.1] at this; exact absurd this (Nat.lt_irrefl _))
      rw [hs.round f (hr f (by simp)), if_neg hne]
      exact ih c' _ fuel (fun x hx => hr x (by simp [hx])) (fun x hx => hcut x (by simp [hx])) h (by
        have := hpos f
        simp only [List.length_append] at hfuel; omega)

namespace Stage
variable {α : Type}

def Sticky (s : Stage α) : Prop := ∀ x, x.1.Failed → (s x).1.Failed

def Cuts (s : Stage α) (p : α) (d : Bytes) (lens : List (Nat × Bool)) : Prop :=
  ∀ k, StrictlyInside lens k → (s ({ rest := d.take k, st := .ok }, p)).1.Failed

theorem Sticky.seq : ∀ {ss : List (Stage α)}, All Sticky ss → (seq ss).Sticky
  | [], _, _, hx => hx
  | _ :: _, h, x, hx => Sticky.seq h.2 _ (h.1 x hx)

theorem Sticky.get {β : Type} {dec : α → Dec β} {rd : α → β} {wr : α → β → α} : (get dec rd wr).Sticky :=
  fun x hx => get_failed x.1 _ _ hx

theorem Sticky.props {tbl : PropTable} {oldOf : α → UInt8 → List PropOcc → Bytes} {apply : α → PropOcc → α} :
    (props tbl oldOf apply).Sticky :=
  fun x hx => getAny_failed x.1 _ _ hx

theorem Sticky.when {c : Buf × α → Prop} [∀ s, Decidable (c s)] {body : List (Stage α)} (h : All Sticky body) :
    (when c body).Sticky := by
  intro x hx
  unfold Stage.when
  split
  · exact Sticky.seq h x hx
  · exact hx

theorem Cuts.nil {s : Stage α} {p : α} {d : Bytes} : s.Cuts p d [] := fun k h => absurd h (strictlyInside_nil k)

theorem Cuts.seq_single {s : Stage α} {p : α} {d : Bytes} {l : List (Nat × Bool)} (h : s.Cuts p d l) :
    (seq [s]).Cuts p d l := h

theorem Cuts.when_pos {c : Buf × α → Prop} [∀ s, Decidable (c s)] {body : List (Stage α)} {p : α} {d : Bytes}
    {l : List (Nat × Bool)} (hc : ∀ b, c (b, p)) (h : (seq body).Cuts p d l) : (when c body).Cuts p d l :=
  fun k hk => Stage.when_pos (hc _) ▸ h k hk

/-- one field of `n` bytes: its interior positions are `0 < k < n` -/
theorem Cuts.single {s : Stage α} {p : α} {d : Bytes} {n : Nat}
    (h : ∀ k, 0 < k → k < n → (s ({ rest := d.take k, st := .ok }, p)).1.Failed) : s.Cuts p d [(n, true)] :=
  fun k hk => h k (strictlyInside_single hk).2.1 (strictlyInside_single hk).2.2

theorem Cuts.byte {s : Stage α} {p : α} {a : UInt8} : s.Cuts p [a] [(1, true)] :=
  .single fun _ h0 h1 => absurd h1 (Nat.not_lt.mpr h0)

theorem Cuts.take_append {s : Stage α} {p : α} {d : Bytes} {l : List (Nat × Bool)} (h : s.Cuts p d l)
    (hd : d.length = (l.map (·.1)).sum) (e : Bytes) {k : Nat} (hk : StrictlyInside l k) :
    (s ({ rest := (d ++ e).take k, st := .ok }, p)).1.Failed := by
  rw [List.take_append_of_le_length (by have := hk.lt; omega)]; exact h k hk

/-- fields without interior positions (single bytes, the raw payload) may follow -/
theorem Cuts.append_none {s : Stage α} {p : α} {d : Bytes} {l : List (Nat × Bool)} (h : s.Cuts p d l)
    (hd : d.length = (l.map (·.1)).sum) (e : Bytes) {m : List (Nat × Bool)} (hm : ∀ k, ¬ StrictlyInside m k) :
    s.Cuts p (d ++ e) (l ++ m) := by
  intro k hk
  rcases strictlyInside_append hk with hl | ⟨k', _, hk'⟩
  · exact h.take_append hd e hl
  · exact absurd hk' (hm k')

/-- the list run from `x` ends failed, once its stages are known to keep a failure: `All Sticky ss` is asked for at the
end, so that a walk along the list need not take it apart. `here`: the first stage fails. `after`: it reads its fields and
the rest fails from there. -/
structure Fails (ss : List (Stage α)) (x : Buf × α) : Prop where
  failed : All Sticky ss → (seq ss x).1.Failed

theorem Fails.here {s : Stage α} {ss : List (Stage α)} {x : Buf × α} (h : (s x).1.Failed) : Fails (s :: ss) x :=
  ⟨fun hs => Sticky.seq hs.2 _ h⟩

theorem Fails.after {s : Stage α} {ss : List (Stage α)} {p p' : α} {d e : Bytes} (hr : s.Reads p d p')
    (h : Fails ss ({ rest := e, st := .ok }, p')) : Fails (s :: ss) ({ rest := d ++ e, st := .ok }, p) :=
  ⟨fun hs => by rw [Stage.seq_cons, hr]; exact h.failed hs.2⟩

/-- one step of a cut: a position inside the fields of the first stage makes that stage fail; a position beyond them
is, once the first stage has read its fields, a position in what the later stages see. The later stages may depend on
`k` (the filter loops take their fuel from the length of the cut data). -/
theorem Fails.cut_cons {s : Stage α} {ss : List (Stage α)} {p p' : α} {d e : Bytes} {l m : List (Nat × Bool)} {k : Nat}
    (hr : s.Reads p d p') (hc : s.Cuts p d l) (hd : d.length = (l.map (·.1)).sum) (hk : StrictlyInside (l ++ m) k)
    (ht : ∀ k', k = d.length + k' → StrictlyInside m k' → Fails ss ({ rest := e.take k', st := .ok }, p')) :
    Fails (s :: ss) ({ rest := (d ++ e).take k, st := .ok }, p) := by
  rcases strictlyInside_append hk with h | ⟨k', rfl, h⟩
  · exact .here (hc.take_append hd e h)
  · rw [← hd, take_pre_add0]; exact .after hr (ht k' (by rw [hd]) h)

/-- the body `d` with field map `l`, cut at any interior position, makes the list fail: `Fails` at every such cut, built by
`cut_cons` along stages that do not depend on the position. `last` asks no `Reads`: after the fields of the last stage
listed more may follow that has no interior (the SUBACK reason codes, the raw PUBLISH payload). -/
structure Chain (ss : List (Stage α)) (p : α) (d : Bytes) (l : List (Nat × Bool)) : Prop where
  fails : ∀ {k}, StrictlyInside l k → Fails ss ({ rest := d.take k, st := .ok }, p)

theorem Chain.last {s : Stage α} {ss : List (Stage α)} {p : α} {d : Bytes} {l : List (Nat × Bool)} (hc : s.Cuts p d l) :
    Chain (s :: ss) p d l := ⟨fun hk => .here (hc _ hk)⟩

theorem Chain.cons {s : Stage α} {ss : List (Stage α)} {p p' : α} {d e : Bytes} {l m : List (Nat × Bool)}
    (hr : s.Reads p d p') (hc : s.Cuts p d l) (hd : d.length = (l.map (·.1)).sum) (h : Chain ss p' e m) :
    Chain (s :: ss) p (d ++ e) (l ++ m) := ⟨fun hk => .cut_cons hr hc hd hk fun _ _ => h.fails⟩

theorem Chain.cuts {ss : List (Stage α)} {p : α} {d : Bytes} {l : List (Nat × Bool)} (h : Chain ss p d l)
    (hs : All Sticky ss) : (seq ss).Cuts p d l :=
  fun _ hk => (h.fails hk).failed hs

theorem Cuts.u16 {rd : α → UInt16} {wr : α → UInt16 → α} {p : α} (v : UInt16) :
    (Stage.get (fun _ => decU16) rd wr).Cuts p (encU16 v) [(2, true)] :=
  .single fun k h0 h1 => by simp only [Stage.get, get_u16_cut v _ k h0 h1]; exact ⟨_, rfl⟩

theorem Cuts.bin {rd : α → Bytes} {wr : α → Bytes → α} {p : α} (v : Bytes) (hv : v.length < 65536) :
    (Stage.get (fun p => decBin (rd p)) rd wr).Cuts p (encBin v) [((encBin v).length, true)] :=
  .single fun k h0 h1 => by simp only [Stage.get, get_bin_cut v _ _ hv k h0 h1]; exact ⟨_, rfl⟩

theorem Cuts.props {tbl : PropTable} {oldOf : α → UInt8 → List PropOcc → Bytes} {apply : α → PropOcc → α} {p : α}
    (ps : List PropOcc) (hlen : (propSection ps).length < 268435456) :
    (Stage.props tbl oldOf apply).Cuts p (propSection ps) [((propSection ps).length, true)] :=
  .single fun k h0 h1 => getAny_section_cut tbl _ ps hlen k h0 h1

end Stage
end Mq
