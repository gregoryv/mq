import Proofs.RejectPackets
/-!
# Proofs.RejectConnect — CONNECT: a legal frame cut strictly inside a field, and a frame with a malformed property
in the CONNECT or the will properties, are rejected
-/
namespace Mq
open Spec (SPacket SWill propsLegal propSection StrictlyInside willK)
open Stage

theorem Stage.Cuts.optBin {α : Type} (cb : α → Bool) (rd : α → Bytes) (wr : α → Bytes → α) (p : α) (o : Option Bytes)
    (hc : cb p = o.isSome) (hok : ∀ x, o = some x → x.length < 65536) :
    (Stage.when (fun s : Buf × α => cb s.2 = true) [.get (fun p => decBin (rd p)) rd wr]).Cuts p (optField o)
      (Spec.optLens o) := by
  cases o with
  | none => exact Cuts.nil
  | some x => exact Cuts.when_pos (fun _ => by simp [hc]) (Cuts.seq_single (Cuts.bin x (hok x rfl)))

theorem willBytes_length (will : Option SWill) : (willBytes will).length = ((Spec.willLens will).map (·.1)).sum := by
  cases will <;> simp [willBytes, Spec.willLens]

theorem optField_length (o : Option Bytes) : (optField o).length = ((Spec.optLens o).map (·.1)).sum := by
  cases o <;> simp [optField, Spec.optLens]

theorem Connect.will_cuts (p : Connect) (will : Option SWill) (hflag : has p.flags Connect.fWillFlag = will.isSome)
    (hw : ∀ w, will = some w → propsLegal willK w.props = true ∧ w.topic.length < 65536 ∧ w.payload.length < 65536
      ∧ (propSection w.props).length < 268435456) :
    (Stage.when (fun s : Buf × Connect => has s.2.flags Connect.fWillFlag = true)
        [Connect.willBlock Connect.willTable Connect.applyWillOcc]).Cuts p (willBytes will) (Spec.willLens will) := by
  cases will with
  | none => exact Cuts.nil
  | some w =>
    obtain ⟨hl, ht, hp, hlen⟩ := hw w rfl
    have h := Chain.cuts (ss := Connect.willCursor Connect.willTable p) (p := p)
      (.cons (Reads.props_legal willK Connect.agreeWill p w.props hl (.lastBin rfl) hlen) (Cuts.props w.props hlen) rfl <|
       .cons (Reads.bin w.topic ht fun _ => rfl) (Cuts.bin w.topic ht) rfl <| .last (Cuts.bin w.payload hp))
      ⟨.props, .get, .get, trivial⟩
    intro k hk
    rw [Stage.when_pos (by simpa using hflag), Stage.seq_cons, Stage.seq, List.foldl_nil, Connect.willBlock_cursor]
    simp only [willBytes, List.append_assoc]
    exact h k hk

theorem Connect.sticky : All Sticky Connect.stages :=
  ⟨.get, .get, .get, .get, .props, .get,
   .when ⟨fun x hx => Connect.willBlock_cursor _ Connect.applyWillOcc x ▸
            Sticky.seq (ss := Connect.willCursor _ x.2) ⟨.props, .get, .get, trivial⟩ x hx, trivial⟩,
   .when ⟨.get, trivial⟩, .when ⟨.get, trivial⟩, trivial⟩

theorem C09a_connect (cs : Bool) (ka : UInt16) (ps : List PropOcc) (cid : Bytes) (will : Option SWill)
    (user pass : Option Bytes) (hl : (SPacket.connect cs ka ps cid will user pass).Legal)
    (c : Nat) (hc0 : StrictlyInside (SPacket.connect cs ka ps cid will user pass).fieldLens c) :
    ∃ e, frameOutcome 0x10 ((SPacket.connect cs ka ps cid will user pass).body.take c) = .err e := by
  obtain ⟨hps, hsec, hcid, hw, huok, hpok⟩ := Connect.legal_parts hl.1 (Nat.lt_add_right 4 hl.2)
  obtain ⟨-, c128, c64, c4, cw⟩ := connectFlags_facts cs will (fun w h => (hw w h).1) user pass
  have hbody := connect_body_eq cs ka ps cid will user pass
  rw [List.append_nil] at hbody
  generalize SPacket.connectFlags cs will user pass = fl at *
  refine Connect.runs.rejects (take_ne_nil_of_inside _ _ c hc0 (by rw [hbody]; simp [encBin])) ?_
  rw [hbody]
  obtain ⟨f2, f2cid, f2un, f2pw, f2wp⟩ := Connect.P2_facts fl ka ps
  -- the packet after the will stage: flags, user name and password as before it
  obtain ⟨wfl, wun, wpw⟩ := Connect.withWill_keeps { ps.foldl Connect.applyOcc (Connect.P1 fl ka) with clientID := cid } will
  rw [← f2] at c128 c64 c4 cw
  have rwill := Connect.will_reads { ps.foldl Connect.applyOcc (Connect.P1 fl ka) with clientID := cid } will c4
    (fun w h => ⟨(cw w h).2, (cw w h).1, (hw w h).2⟩) f2wp
  generalize Connect.withWill _ will = pWill at wfl wun wpw rwill
  refine Chain.cuts ?_ Connect.sticky c hc0
  simp only [SPacket.fieldLens, List.append_assoc, List.cons_append, List.nil_append]
  refine .cons (Reads.bin Connect.mqtt5 (by decide) fun _ => rfl) (Cuts.bin Connect.mqtt5 (by decide)) rfl ?_
  refine .cons (d := [5]) (Reads.u8 5) Cuts.byte rfl ?_
  refine .cons (d := [fl]) (Reads.u8 fl) Cuts.byte rfl ?_
  refine .cons (Reads.u16 ka) (Cuts.u16 ka) rfl ?_
  refine .cons (Reads.props_legal 1 Connect.agree (Connect.P1 fl ka) ps hps (.lastBin rfl) hsec) (Cuts.props ps hsec) rfl ?_
  refine .cons (Reads.bin cid hcid fun _ => f2cid) (Cuts.bin cid hcid) rfl ?_
  refine .cons rwill (Connect.will_cuts _ will c4
    fun w h => (hw w h).2) (willBytes_length will) ?_
  have cuser : has pWill.flags Connect.fUsername = user.isSome := by rw [wfl]; exact c128
  refine .cons (Reads.optBin (fun p : Connect => has p.flags Connect.fUsername) _ _ pWill user cuser huok (wun.trans f2un) rfl)
    (Cuts.optBin (fun p : Connect => has p.flags Connect.fUsername) _ _ pWill user cuser huok) (optField_length user) ?_
  refine .last (Cuts.optBin (fun p : Connect => has p.flags Connect.fPassword) _ _ _ pass ?_ hpok)
  show has pWill.flags Connect.fPassword = _
  rw [wfl]; exact c64

theorem bad_connect (fl : UInt8) (ka : UInt16) (L : Nat) (pre : List PropOcc) (bad suf : Bytes) (hl : propsLegal 1 pre = true)
    (hL : L < 268435456) (hreach : (pre.flatMap encOcc).length < L) (hbad : BadProp Connect.table bad) :
    ∃ e, frameOutcome 0x10 (encBin Connect.mqtt5 ++ (5 :: fl :: (encU16 ka ++ badSection L pre bad suf))) = .err e := by
  refine Connect.runs.rejects (by simp [encBin]) (Fails.failed ?_ Connect.sticky)
  exact .after (Reads.bin Connect.mqtt5 (by decide) fun _ => rfl) <| .after (d := [5]) (Reads.u8 5) <|
    .after (d := [fl]) (Reads.u8 fl) <| .after (Reads.u16 ka) <| .badProps Connect.agree hl (.lastBin rfl) hL hreach hbad

theorem bad_connect_will (fl : UInt8) (hfl : has fl Connect.fWillFlag = true) (ka : UInt16) (ps : List PropOcc)
    (hps : propsLegal 1 ps = true) (hsl : (ps.flatMap encOcc).length < 268435456) (cid : Bytes) (hcid : cid.length < 65536)
    (L : Nat) (pre : List PropOcc) (bad suf : Bytes) (hl : propsLegal Spec.willK pre = true)
    (hL : L < 268435456) (hreach : (pre.flatMap encOcc).length < L) (hbad : BadProp Connect.willTable bad) :
    ∃ e, frameOutcome 0x10 (encBin Connect.mqtt5 ++ (5 :: fl :: (encU16 ka ++ (Spec.propSection ps ++ (encBin cid
      ++ badSection L pre bad suf))))) = .err e := by
  obtain ⟨f2, f2cid, -⟩ := Connect.P2_facts fl ka ps
  -- `hsl` bounds the properties, not the section with its length prefix: what `getAny_spec` asks, which is less than
  -- `Reads.props_legal` does
  have rps : (Stage.props Connect.table (fun p => lastBin p.binInit) Connect.applyOcc).Reads (Connect.P1 fl ka)
      (propSection ps) (ps.foldl Connect.applyOcc (Connect.P1 fl ka)) := fun rest => by
    simp only [Stage.props, getAny_spec 1 _ Connect.agree ps hps (oldOf := lastBin (Connect.P1 fl ka).binInit)
      (.lastBin rfl) rest hsl]
  refine Connect.runs.rejects (by simp [encBin]) (Fails.failed ?_ Connect.sticky)
  refine .after (Reads.bin Connect.mqtt5 (by decide) fun _ => rfl) <| .after (d := [5]) (Reads.u8 5) <|
    .after (d := [fl]) (Reads.u8 fl) <| .after (Reads.u16 ka) <| .after rps <|
    .after (Reads.bin cid hcid fun _ => f2cid) <| .here ?_
  rw [Stage.when_pos (by rw [← hfl]; exact congrArg (has · _) f2)]
  show (Connect.willBlock _ _ _).1.Failed
  rw [Connect.willBlock_cursor]
  exact Fails.failed (.badProps Connect.agreeWill hl (.lastBin rfl) hL hreach hbad) ⟨.props, .get, .get, trivial⟩

end Mq
