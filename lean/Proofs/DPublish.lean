import Proofs.DSimple
/-!
# Proofs.DPublish — PUBLISH: the model's decoder on every legal frame
-/
namespace Mq
open Spec (SPacket propVal userPropsOf vvOf propsLegal subIDsOf)

theorem Publish.agree : tablesAgree 3 Publish.table = true := by decide

theorem publish_first_table : ∀ (dup retain : Bool) (q : Fin 3),
    let fb := (SPacket.publish dup (UInt8.ofNat q.val) retain [] 0 [] []).firstByte
    (fb >>> 4).toNat = 3
      ∧ ({ fixed := fb } : Publish).qos = UInt8.ofNat q.val ∧ ({ fixed := fb } : Publish).duplicate = dup
      ∧ ({ fixed := fb } : Publish).retain = retain
      ∧ ({ fixed := fb } : Publish).hasPacketID = decide (q.val ≠ 0) := by
  decide

theorem publish_first (dup retain : Bool) (qos : UInt8) (hq : qos ≤ 2) (topic : Bytes) (pid : UInt16)
    (ps : List PropOcc) (payload : Bytes) :
    let fb := (SPacket.publish dup qos retain topic pid ps payload).firstByte
    (fb >>> 4).toNat = 3
      ∧ ({ fixed := fb } : Publish).qos = qos ∧ ({ fixed := fb } : Publish).duplicate = dup
      ∧ ({ fixed := fb } : Publish).retain = retain
      ∧ ({ fixed := fb } : Publish).hasPacketID = decide (qos ≠ 0) := by
  have hlt : qos.toNat < 3 := by
    have : qos.toNat ≤ 2 := hq
    omega
  have := publish_first_table dup retain ⟨qos.toNat, hlt⟩
  simp only [UInt8.ofNat_toNat] at this
  have hz : (qos.toNat ≠ 0) ↔ (qos ≠ 0) := by
    constructor
    · intro h e; subst e; simp at h
    · intro h e; apply h; exact UInt8.toNat_inj.mp (by simpa using e)
  simpa [SPacket.firstByte, hz] using this

theorem Publish.runs {fb : UInt8} (hb : (fb >>> 4).toNat = 3) :
    Packet.Runs fb .publish (fun _ => Publish.stages) { fixed := fb } :=
  ⟨by unfold Packet.dispatch; rw [hb]; rfl, fun _ => by rw [← Publish.unmarshal_eq_run]; rfl⟩

/-- an identifier within MQTT's limit fits the `uint32` it is stored in -/
theorem subIDsOf_toNat (ps : List PropOcc) (hr : ∀ o ∈ ps, o.val.InRange) :
    (ps.filterMap fun o => match o.val with
      | .vb n => if o.id = 0x0b then some (UInt32.ofNat n) else none
      | _ => none).map UInt32.toNat = subIDsOf ps := by
  induction ps with
  | nil => rfl
  | cons o t ih =>
    have ht := ih fun x hx => hr x (List.mem_cons_of_mem _ hx)
    have ho := hr o List.mem_cons_self
    obtain ⟨id, val⟩ := o
    cases val <;> simp only [subIDsOf, List.filterMap_cons] at ht ⊢ <;> try exact ht
    by_cases h : id = 0x0b <;> simp only [h, if_true, if_false, List.map_cons, ht]
    simp only [WVal.InRange] at ho
    rw [UInt32.toNat_ofNat_of_lt' (by simp only [UInt32.size]; omega)]

theorem Publish.fold_subIDs (ps : List PropOcc) (hok : ∀ o ∈ ps, PropOk Publish.table o) (p : Publish) :
    (ps.foldl Publish.applyOcc p).subscriptionIDs.map UInt32.toNat = p.subscriptionIDs.map UInt32.toNat ++ subIDsOf ps := by
  rw [fold_filterMap Publish.applyOcc_subscriptionIDs, List.map_append]
  exact congrArg (_ ++ ·) (subIDsOf_toNat ps fun o ho => (hok o ho).1)

/-- `if v := p.QoS(); v == 1 || v == 2 { get(&p.packetID) }` -/
theorem Publish.reads_pid (p : Publish) (qos : UInt8) (hp : p.hasPacketID = decide (qos ≠ 0)) (pid : UInt16) :
    (Stage.when (fun s : Buf × Publish => s.2.hasPacketID = true)
        [.get (fun _ => decU16) (·.packetID) (fun p v => { p with packetID := v })]).Reads
      p (if qos = 0 then [] else encU16 pid) { p with packetID := if qos = 0 then p.packetID else pid } := by
  by_cases h0 : qos = 0
  · simp only [h0, if_true]; exact Stage.Reads.when_neg fun _ => by simp [hp, h0]
  · simp only [h0, if_false]; exact Stage.Reads.when_pos (fun _ => by simp [hp, h0]) (Stage.Reads.seq_single (Stage.Reads.u16 pid))

/-- `if len(data) > buf.i { get(&p.payload) }` -/
theorem Publish.payload_parses (p : Publish) (payload : Bytes) (hp : p.payload = []) :
    Stage.Parses [Stage.when (fun s : Buf × Publish => s.1.rest ≠ [])
        [.get (fun _ => decRaw) (·.payload) (fun p v => { p with payload := v })]] p payload { p with payload := payload } := by
  by_cases h : payload = []
  · subst h
    rw [show ({ p with payload := [] } : Publish) = p by rw [← hp]]
    exact .when_neg fun hc => hc rfl
  · exact .when_pos h (.of_eq (r := []) (by simp only [Stage.get, get_raw payload h]))

theorem D_publish (dup : Bool) (qos : UInt8) (retain : Bool) (topic : Bytes) (pid : UInt16)
    (ps : List PropOcc) (payload : Bytes) (hl : (SPacket.publish dup qos retain topic pid ps payload).Legal) :
    ∃ q, frameOutcome (SPacket.publish dup qos retain topic pid ps payload).firstByte
        (SPacket.publish dup qos retain topic pid ps payload).body = .pkt (.publish q)
      ∧ (Packet.publish q).view = (SPacket.publish dup qos retain topic pid ps payload).view := by
  obtain ⟨hleg, hlen⟩ := hl
  simp only [SPacket.legal, Bool.and_eq_true, decide_eq_true_eq, SPacket.strOK] at hleg
  obtain ⟨⟨hq, htopic⟩, hps⟩ := hleg
  obtain ⟨hfb, hqos, hdup, hret, hpid⟩ := publish_first dup retain qos hq topic pid ps payload
  generalize (SPacket.publish dup qos retain topic pid ps payload).firstByte = fb at *
  simp only [SPacket.body] at hlen ⊢
  have hsl := section_fits ps (encBin topic ++ if qos = 0 then [] else encU16 pid) payload (by simpa using hlen)
  have hbne : (encBin topic ++ (if qos = 0 then [] else encU16 pid) ++ Spec.propSection ps ++ payload).length ≠ 0 := by simp
  have hok := propsOk_of_legal 3 Publish.table Publish.agree ps hps
  have h := fun p => Publish.fold_reads ps hok p
  simp only [Folded, readings, Tie.publishFields, List.map, vvOf, List.cons.injEq, Prod.mk.injEq, true_and, and_true, Publish.nonProps] at h
  have hp : Stage.Parses Publish.stages { fixed := fb } _ _ :=
    .cons (Stage.Reads.bin topic htopic fun _ => rfl) <|
    .cons (Publish.reads_pid { fixed := fb, topicName := topic } qos hpid pid) <|
    .cons (Stage.Reads.props_legal 3 Publish.agree _ ps hps (.lastBin rfl) hsl)
      (Publish.payload_parses _ payload (h _).2.1.2.2.2)
  simp only [List.append_assoc]
  refine ⟨_, (Publish.runs hfb).accepts (by simp) hp, ?_⟩
  simp only [Publish.qos, Publish.duplicate, Publish.retain] at hqos hdup hret
  have hsub := Publish.fold_subIDs ps hok { fixed := fb, topicName := topic, packetID := if qos = 0 then 0 else pid }
  simp only [Packet.view, Publish.view, SPacket.view, SPacket.publishView, h, Publish.qos, Publish.duplicate, Publish.retain, hqos, hdup, hret, hsub]
  simp [apply_ite UInt16.toNat]

end Mq
