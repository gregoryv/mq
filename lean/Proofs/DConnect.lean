import Proofs.DSimple
import Proofs.ConnectBody
/-!
# Proofs.DConnect — CONNECT: the model's decoder on every legal frame
-/
namespace Mq
open Spec (SPacket SWill propDefs propVal propsLegal subIDsOf userPropsOf vvOf willK)
open Stage

theorem Connect.agree : tablesAgree 1 Connect.table = true := by decide
theorem Connect.agreeWill : tablesAgree willK Connect.willTable = true := by decide

theorem will_base_table : ∀ (q : Fin 3) (r : Bool),
    let w := (Publish.new.setQoS (UInt8.ofNat q.val)).setRetain r
    w.qos = UInt8.ofNat q.val ∧ w.retain = r ∧ w.duplicate = false := by
  decide

/-- what the will block makes of a will on the wire: `NewPublish()` with the QoS and the retain bit of the flags, the will
properties applied, topic and payload stored; beside it the will delay interval, the one will property kept in the CONNECT -/
def Will.decoded (d0 : UInt32) (w : SWill) : UInt32 × Publish :=
  let t := w.props.foldl Connect.applyWillOcc (d0, (Publish.new.setQoS w.qos).setRetain w.retain)
  (t.1, { t.2 with topicName := w.topic, payload := w.payload })

/-- the packet after the will stage on the bytes of the specification's will: untouched if there is none -/
def Connect.withWill (p : Connect) : Option SWill → Connect
  | none => p
  | some w => { p with willDelayInterval := (Will.decoded p.willDelayInterval w).1, willPayload := w.payload,
                       will := some (Will.decoded p.willDelayInterval w).2 }

/-- the will read back against the specification's reading of it. The fresh will's first byte decides QoS, retain and
duplicate, and no will property touches it; topic alias and subscription identifiers stay at their defaults, which is what the
specification reads for identifiers that no legal will property list holds. -/
theorem Will.decoded_view (w : SWill) (hq : w.qos ≤ 2) (hl : propsLegal willK w.props = true) :
    (Will.decoded 0 w).2.view.map (fun kv => ("Will." ++ kv.1, kv.2))
        = SPacket.publishView "Will." false w.qos w.retain w.topic 0 w.props w.payload
      ∧ VV.n (Will.decoded 0 w).1.toNat = propVal w.props 0x18 (.n 0) := by
  obtain ⟨b1, b2, b3⟩ := will_base_table ⟨w.qos.toNat, Nat.lt_succ_of_le hq⟩ w.retain
  simp only [UInt8.ofNat_toNat] at b1 b2 b3
  obtain ⟨wf, wpid, walias, -, -, wsubs⟩ :=
    Will.fold_nonProps w.props ((0 : UInt32), (Publish.new.setQoS w.qos).setRetain w.retain)
  obtain ⟨hws, -, hups⟩ := Will.fold_reads w.props (propsOk_of_legal willK _ Connect.agreeWill w.props hl)
    ((0 : UInt32), (Publish.new.setQoS w.qos).setRetain w.retain)
  simp only [readings, Will.fields, Tie.willFields, List.map, vvOf, List.cons.injEq, Prod.mk.injEq, true_and, and_true] at hws
  obtain ⟨h18, h01, h02, h03, h08, h09⟩ := hws
  have noids := will_no_alias_subid w.props hl
  have hb : (Will.decoded 0 w).2.qos = w.qos ∧ (Will.decoded 0 w).2.retain = w.retain
      ∧ (Will.decoded 0 w).2.duplicate = false := by
    simp only [Publish.qos, Publish.retain, Publish.duplicate, Will.decoded, wf]; exact ⟨b1, b2, b3⟩
  exact ⟨Publish.view_spec "Will." _ false w.qos w.retain w.topic 0 w.props w.payload h03 h09 hb.2.2 h02
    ((congrArg UInt16.toNat wpid).trans (ite_self _).symm) rfl h01 hb.1 h08 hb.2.1
    ((congrArg (List.map UInt32.toNat) wsubs).trans (subIDsOf_absent _ fun o ho => (noids o ho).2).symm)
    ((congrArg (fun a => VV.n a.toNat) walias).trans (propVal_absent 0x23 _ _ fun o ho => (noids o ho).1).symm) rfl hups, h18⟩

/-- the packet after the four head stages (protocol name, version, flags, keep-alive) on a frame that names `MQTT`, 5 -/
def Connect.P1 (fl : UInt8) (ka : UInt16) : Connect :=
  { fixed := 0x10, protocolName := Connect.mqtt5, protocolVersion := 5, flags := fl, keepAlive := ka }

/-- `P2` is the packet after the property section as well: the flags the later stages test are those read, and the
strings they read into are still empty -/
theorem Connect.P2_facts (fl : UInt8) (ka : UInt16) (ps : List PropOcc) :
    let P2 := ps.foldl Connect.applyOcc (Connect.P1 fl ka)
    P2.flags = fl ∧ P2.clientID = [] ∧ P2.username = [] ∧ P2.password = [] ∧ P2.willPayload = [] := by
  obtain ⟨_, _, fwp, ff, _, _, _, fcid, fun_, fpw, _⟩ := Connect.fold_nonProps ps (Connect.P1 fl ka)
  exact ⟨ff, fcid, fun_, fpw, fwp⟩

/-- `if p.flags.Has(…) { get(&p.field) }` -/
theorem Stage.Reads.optBin {α : Type} (cb : α → Bool) (rd : α → Bytes) (wr : α → Bytes → α) (p : α) (o : Option Bytes)
    (hc : cb p = o.isSome) (hok : ∀ x, o = some x → x.length < 65536) (hold : rd p = []) (hwr : wr p (rd p) = p) :
    (Stage.when (fun s : Buf × α => cb s.2 = true) [.get (fun p => decBin (rd p)) rd wr]).Reads p (optField o)
      (wr p (o.getD (rd p))) := by
  cases o with
  | none => rw [Option.getD_none, hwr]; exact Reads.when_neg fun _ => by simp [hc]
  | some x => exact Reads.when_pos (fun _ => by simp [hc]) (Reads.seq_single (Reads.bin x (hok x rfl) fun _ => hold))

theorem Connect.withWill_keeps (p : Connect) (will : Option SWill) :
    (p.withWill will).flags = p.flags ∧ (p.withWill will).username = p.username
      ∧ (p.withWill will).password = p.password := by
  cases will <;> exact ⟨rfl, rfl, rfl⟩

/-- the will block on a legal will: property section, topic, payload -/
theorem Connect.willBlock_reads (p : Connect) (w : SWill) (hq : p.willQoS = w.qos)
    (hr : has p.flags Connect.fWillRetain = w.retain) (hwp : p.willPayload = []) (hl : propsLegal willK w.props = true)
    (ht : w.topic.length < 65536) (hp : w.payload.length < 65536) (hlen : (Spec.propSection w.props).length < 268435456) :
    (Connect.willBlock Connect.willTable Connect.applyWillOcc).Reads p (willBytes (some w)) (p.withWill (some w)) :=
  fun rest => by
    simp only [Connect.willBlock, willBytes, List.append_assoc, hq, hr, hwp]
    rw [getAny_spec willK Connect.willTable Connect.agreeWill w.props hl (.lastBin rfl) _
      (Nat.lt_of_le_of_lt (section_len_le w.props) hlen)]
    simp only [get_bin w.topic ht, get_bin w.payload hp]
    rfl

theorem Connect.will_reads (p : Connect) (will : Option SWill) (hflag : has p.flags Connect.fWillFlag = will.isSome)
    (hw : ∀ w, will = some w → p.willQoS = w.qos ∧ has p.flags Connect.fWillRetain = w.retain
      ∧ propsLegal willK w.props = true ∧ w.topic.length < 65536 ∧ w.payload.length < 65536
      ∧ (Spec.propSection w.props).length < 268435456)
    (hwp : p.willPayload = []) :
    (Stage.when (fun s : Buf × Connect => has s.2.flags Connect.fWillFlag = true)
        [Connect.willBlock Connect.willTable Connect.applyWillOcc]).Reads p (willBytes will) (p.withWill will) := by
  cases will with
  | none => exact Reads.when_neg fun _ => by simp [hflag]
  | some w =>
    obtain ⟨hq, hr, hl, ht, hp, hlen⟩ := hw w rfl
    exact Reads.when_pos (fun _ => by simp [hflag]) (Reads.seq_single (Connect.willBlock_reads p w hq hr hwp hl ht hp hlen))

theorem Connect.runs : Packet.Runs 0x10 .connect (fun _ => Connect.stages) { fixed := 0x10 } :=
  ⟨by decide, fun _ => by rw [← Connect.unmarshal_eq_run]; rfl⟩

/-- the remaining-length bound is used only for the two property sections, so four bytes of slack are harmless; the C01
substitution argument needs them: the `MQTT`/5 twin of a packet with a shorter protocol name is up to four bytes longer -/
theorem D_connect_core (cs : Bool) (ka : UInt16) (ps : List PropOcc) (cid : Bytes) (will : Option SWill)
    (user pass : Option Bytes) (hleg : (SPacket.connect cs ka ps cid will user pass).legal = true)
    (hlen : (SPacket.connect cs ka ps cid will user pass).body.length < 268435456 + 4) :
    ∃ q, frameOutcome 0x10 (SPacket.connect cs ka ps cid will user pass).body = .pkt (.connect q)
      ∧ (Packet.connect q).view = (SPacket.connect cs ka ps cid will user pass).view := by
  obtain ⟨hps, hsec, hcid, hw, huok, hpok⟩ := Connect.legal_parts hleg hlen
  obtain ⟨c2, c128, c64, c4, cw⟩ := connectFlags_facts cs will (fun w h => (hw w h).1) user pass
  have hbody := connect_body_eq cs ka ps cid will user pass
  generalize hflv : SPacket.connectFlags cs will user pass = fl at *
  rw [hbody]
  have hok := propsOk_of_legal 1 Connect.table Connect.agree ps hps
  obtain ⟨_, fwill, fwp, (ff : _ = fl), fpn, fpv, fka, fcid, fun_, fpw, (fwd : _ = 0)⟩ := Connect.fold_nonProps ps (Connect.P1 fl ka)
  obtain ⟨wfl, wun, wpw⟩ := Connect.withWill_keeps { ps.foldl Connect.applyOcc (Connect.P1 fl ka) with clientID := cid } will
  rw [← ff] at c128 c64 c4 cw
  have hp : Parses Connect.stages { fixed := 0x10 } _ _ :=
    .cons (Reads.bin Connect.mqtt5 (by decide) fun _ => rfl) <| .cons (d := [5]) (Reads.u8 5) <|
    .cons (d := [fl]) (Reads.u8 fl) <| .cons (Reads.u16 ka) <|
    .cons (Reads.props_legal 1 Connect.agree (Connect.P1 fl ka) ps hps (.lastBin rfl) hsec) <|
    .cons (Reads.bin cid hcid fun _ => fcid) <|
    .cons (Connect.will_reads _ will c4 (fun w h => ⟨(cw w h).2, (cw w h).1, (hw w h).2⟩) fwp) <|
    .cons (Reads.optBin (fun p : Connect => has p.flags Connect.fUsername) _ _ _ user
      (by rw [wfl]; exact c128) huok (wun.trans fun_) rfl) <|
    .cons (Reads.optBin (fun p : Connect => has p.flags Connect.fPassword) _ _ _ pass
      (by rw [wfl]; exact c64) hpok (wpw.trans fpw) rfl)
      (Parses.nil _ [])
  refine ⟨_, Connect.runs.accepts (by simp) hp, ?_⟩
  have hs := fun p => (Connect.fold_reads ps hok p).1
  simp only [readings, Tie.connectFields, List.map, vvOf, List.cons.injEq, Prod.mk.injEq, true_and, and_true] at hs
  -- The view of the decoded packet against the specification's, entry by entry. With both unfolded, a field no property
  -- maps to is rewritten to what it was before the fold (`f…`), a property slot to the specification's `propVal` (`hs`);
  -- what is left is the fields of `P1`, the clean-start bit and the will, which has its own lemma.
  simp only [Packet.view, Connect.view, SPacket.view, ff, fpn, fpv, fka, fun_, fpw, hflv]
  cases will with
  | none =>
    simp only [Connect.withWill, fwill, fwd, hs, fold_userProps Connect.applyOcc_userProps]
    simp [Connect.P1, c2, Connect.mqtt5]
  | some w =>
    obtain ⟨wv, wd⟩ := Will.decoded_view w (hw w rfl).1 (hw w rfl).2.1
    simp only [Connect.withWill, fwd, wv, wd, hs, fold_userProps Connect.applyOcc_userProps]
    simp [Connect.P1, c2, Connect.mqtt5]

theorem D_connect (cs : Bool) (ka : UInt16) (ps : List PropOcc) (cid : Bytes) (will : Option SWill)
    (user pass : Option Bytes) (hl : (SPacket.connect cs ka ps cid will user pass).Legal) :
    ∃ q, frameOutcome 0x10 (SPacket.connect cs ka ps cid will user pass).body = .pkt (.connect q)
      ∧ (Packet.connect q).view = (SPacket.connect cs ka ps cid will user pass).view :=
  D_connect_core cs ka ps cid will user pass hl.1 (by have := hl.2; omega)

end Mq
