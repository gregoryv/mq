import Proofs.Safe
import Proofs.ReadPacket
/-!
# Proofs.PacketSafe — the per-type results lifted to the packet sum, and from there to one frame and to `ReadPacket`:
a packet or an error, never both, never neither
-/
namespace Mq

/-- list elements a packet holds: user properties, subscription identifiers, filters, reason codes
(and the user properties of a CONNECT's will) -/
def Packet.elems : Packet → Nat
  | .undefined _ => 0
  | .connect p => p.elems
  | .connack p => p.elems
  | .publish p => p.elems
  | .puback p | .pubrec p | .pubrel p | .pubcomp p => p.elems
  | .subscribe p => p.elems
  | .suback p | .unsuback p => p.elems
  | .unsubscribe p => p.elems
  | .pingreq _ | .pingresp _ => 0
  | .disconnect p => p.elems
  | .auth p => p.elems

/-- `+ 1`: the filter loops append the element they were reading when they hit the error that makes them stop -/
theorem Packet.unmarshal_tame (p : Packet) (data : Bytes) :
    (p.unmarshal data).2 ≠ .panic ∧ (p.unmarshal data).2 ≠ .hang
      ∧ (p.unmarshal data).1.elems ≤ p.elems + data.length + 1 := by
  have weaken : ∀ {s : St} {n m : Nat}, s ≠ .panic ∧ s ≠ .hang ∧ n ≤ m → s ≠ .panic ∧ s ≠ .hang ∧ n ≤ m + 1 :=
    fun h => ⟨h.1, h.2.1, Nat.le_succ_of_le h.2.2⟩
  cases p with
  | undefined q | pingreq q | pingresp q =>
    exact ⟨(q.unmarshal_safe data).1, (q.unmarshal_safe data).2, Nat.zero_le _⟩
  | connect q | connack q | publish q | puback q | pubrec q | pubrel q | pubcomp q | disconnect q | auth q =>
    exact weaken (q.unmarshal_safe data)
  | subscribe q | unsubscribe q => exact q.unmarshal_safe data
  | suback q | unsuback q =>
    have h := q.unmarshal_safe data
    exact ⟨h.1, h.2.1, Nat.le_trans h.2.2 (by simp only [Packet.elems, SubAck.elems]; omega)⟩

theorem Packet.unmarshal_safe (p : Packet) (data : Bytes) :
    (p.unmarshal data).2 ≠ .panic ∧ (p.unmarshal data).2 ≠ .hang :=
  ⟨(p.unmarshal_tame data).1, (p.unmarshal_tame data).2.1⟩

theorem Packet.unmarshal_elems (p : Packet) (data : Bytes) :
    (p.unmarshal data).1.elems ≤ p.elems + data.length + 1 := (p.unmarshal_tame data).2.2

theorem Packet.dispatch_elems (b0 : UInt8) : (Packet.dispatch b0).elems = 0 := by
  unfold Packet.dispatch
  split <;> rfl

theorem frameOutcome_xor (b0 : UInt8) (body : Bytes) :
    (∃ q, frameOutcome b0 body = .pkt q) ∨ (∃ e, frameOutcome b0 body = .err e) := by
  by_cases hne : body.length = 0
  · exact .inl ⟨_, if_pos hne⟩
  · have hs := Packet.unmarshal_safe (Packet.dispatch b0) body
    cases hst : ((Packet.dispatch b0).unmarshal body).2 with
    | ok => exact .inl ⟨_, frameOutcome_ok hne hst⟩
    | err e => exact .inr ⟨e, (frameOutcome_eq_err hne).mpr hst⟩
    | panic => exact absurd hst hs.1
    | hang => exact absurd hst hs.2

theorem purePacket_xor (d : Bytes) (fail : IOErr) :
    (∃ q, (purePacket d fail).1 = .pkt q) ∨ (∃ e, (purePacket d fail).1 = .err e) := by
  rcases purePacket_outcome d fail with he | ⟨b0, body, hb⟩
  · exact .inr he
  · rw [hb]; exact frameOutcome_xor b0 body

theorem readPacket_xor (r : Reader) : (∃ q, (readPacket r).1 = .pkt q) ∨ (∃ e, (readPacket r).1 = .err e) := by
  rw [readPacket_fst]; exact purePacket_xor r.data r.fail

end Mq
