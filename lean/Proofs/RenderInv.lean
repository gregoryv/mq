import Proofs.Setters
import Proofs.ReadPacket
import Proofs.Stages
import Mq.Render
/-!
# Proofs.RenderInv — "will flag set ⇒ will attached" is preserved by every setter, by every
`UnmarshalBinary` (whatever its outcome) and holds for everything `ReadPacket` returns
-/
namespace Mq

def Connect.WillInv (p : Connect) : Prop := has p.flags Connect.fWillFlag = true → p.will.isSome = true

/-- what the invariant is for: `String()` of a CONNECT measures the frame, and the measure is undefined exactly
when the will flag is set without a will (`p.will.…` on a nil pointer in Go) -/
theorem Connect.fillG?_ne_none (p : Connect) (h : p.WillInv) : p.fillG? ≠ none := by
  cases hf : has p.flags Connect.fWillFlag
  · simp [Connect.fillG?, Connect.payloadG?, hf]
  · obtain ⟨w, hw⟩ := Option.isSome_iff_exists.mp (h hf)
    simp [Connect.fillG?, Connect.payloadG?, hf, hw]

/-- `WillInv` reads the will flag (mask 4) and the will, nothing else -/
theorem Connect.WillInv.congr {p q : Connect} (hp : p.WillInv)
    (hf : q.flags &&& Connect.fWillFlag = p.flags &&& Connect.fWillFlag) (hw : q.will = p.will) : q.WillInv := by
  unfold Connect.WillInv at *
  rwa [has_congr hf, hw]

theorem Connect.apply_will_inv (p q : Connect) (op : SetOp) (h : p.apply op = some q) (hi : p.WillInv) : q.WillInv := by
  rcases Connect.apply_cases p q op h with ⟨w, rfl⟩ | ⟨v, rfl⟩ | ⟨v, rfl⟩ | ⟨v, rfl⟩ | ⟨e1, _, _, e4⟩
  · exact fun _ => rfl
  · exact hi.congr (toggle_and _ 2 4 v rfl) rfl
  · exact hi.congr (toggle_and _ 128 4 _ rfl) rfl
  · exact hi.congr (toggle_and _ 64 4 _ rfl) rfl
  · exact hi.congr (by rw [e1]) e4

theorem Connect.willStage_inv (x : Buf × Connect) : (Connect.willStage x).2.WillInv := by
  unfold Connect.WillInv Connect.willStage Stage.when
  split
  · exact fun _ => rfl
  · exact fun h => absurd h ‹_›

theorem Connect.unmarshal_will_inv (p : Connect) (d : Bytes) : (p.unmarshal d).1.WillInv := by
  rw [Connect.unmarshal_split]
  have h := Stage.Keeps.seq Connect.postWill_keeps (Connect.willStage (Stage.seq Connect.preWill ({ rest := d }, p)))
  exact (Connect.willStage_inv _).congr (congrArg (·.1 &&& _) h) (congrArg (·.2.1) h)

def Packet.RenderInv : Packet → Prop
  | .connect q => q.WillInv
  | _ => True

theorem Packet.unmarshal_renderInv (p : Packet) (d : Bytes) : (p.unmarshal d).1.RenderInv := by
  cases p <;> simp only [Packet.unmarshal, Packet.RenderInv]
  exact Connect.unmarshal_will_inv _ _

theorem Packet.dispatch_renderInv (b0 : UInt8) : (Packet.dispatch b0).RenderInv := by
  unfold Packet.dispatch
  split <;> simp [Packet.RenderInv, Connect.WillInv, has, Connect.fWillFlag]

theorem readPacket_renderInv (r : Reader) (q : Packet) (h : (readPacket r).1 = .pkt q) : q.RenderInv := by
  obtain ⟨b0, body, h'⟩ := readPacket_pkt h
  rcases frameOutcome_pkt h' with rfl | rfl
  · exact Packet.dispatch_renderInv b0
  · exact Packet.unmarshal_renderInv _ body

end Mq
