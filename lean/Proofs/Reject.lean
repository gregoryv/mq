import Proofs.Vbint
import Proofs.Buf
/-!
# Proofs.Reject — why malformed input ends in an error: the failure of the cursor is sticky (`Buf.Failed`), the decoders of
the fields that have an interior (two- and four-byte integers, strings, variable byte integers) reject a proper prefix of an
encoding, and the property loop rejects a section shorter than its declared length, wherever in it the cut falls
-/
namespace Mq

/-- Go's `b.err != nil`: the status is an error, not one of the two abnormal outcomes -/
def Buf.Failed (b : Buf) : Prop := ∃ e, b.st = .err e

theorem Buf.Failed.not_ok {b : Buf} (h : b.Failed) : b.st ≠ .ok := by
  obtain ⟨e, he⟩ := h; rw [he]; simp

theorem get_failed {α} (b : Buf) (dec : Dec α) (old : α) (h : b.Failed) : (b.get dec old).1.Failed := by
  rw [get_of_not_ok b dec old h.not_ok]; exact h

theorem getAnyLoop_failed (tbl : PropTable) (oldOf : UInt8 → List PropOcc → Bytes) (n0 plen fuel : Nat) (b : Buf)
    (acc : List PropOcc) (h : b.Failed) (hf : 0 < fuel) : (getAnyLoop tbl oldOf n0 plen fuel b acc).1.Failed := by
  obtain ⟨fuel, rfl⟩ := Nat.exists_eq_add_one.mpr hf
  rw [getAnyLoop_of_not_ok h.not_ok]; exact h

theorem getAny_failed (b : Buf) (tbl : PropTable) (oldOf : UInt8 → List PropOcc → Bytes) (h : b.Failed) :
    (b.getAny tbl oldOf).1.Failed := by
  unfold Buf.getAny
  split
  · exact h
  · simp only [get_of_not_ok b decVb 0 h.not_ok]
    exact getAnyLoop_failed _ _ _ _ _ _ _ h (by omega)

def DecRes.isErr {α} : DecRes α → Prop
  | .err _ => True
  | _ => False

theorem decU16_short (d : Bytes) (h : d.length < 2) : decU16 d = .err .missing := by simp [decU16, h]
theorem decU32_short (d : Bytes) (h : d.length < 4) : decU32 d = .err .missing := by simp [decU32, h]

theorem binLen_short (d : Bytes) (h : d.length < 2) : binLen d = 0 := by rw [binLen, decU16_short d h]

theorem decBin_prefix (old v : Bytes) (hv : v.length < 65536) (j : Nat) (hj : j < (encBin v).length) :
    decBin old ((encBin v).take j) = .err .missing := by
  have hl : ((encBin v).take j).length = j := List.length_take_of_le (Nat.le_of_lt hj)
  rw [encBin_length] at hj
  refine if_pos ?_
  rw [hl]
  by_cases h2 : j < 2
  · -- not even the length is complete, and is taken for 0
    rw [binLen_short _ (hl.symm ▸ h2)]; exact h2
  · -- the length is read: it announces more than is left
    rw [encBin_eq, List.take_append, List.take_of_length_le (Nat.le_of_not_lt h2), binLen_enc, UInt16.toNat_ofNat_of_lt' hv]
    exact hj

theorem decVb_prefix (x : Nat) (j : Nat) (hj : j < (encVb x).length) : ∃ e, decVb ((encVb x).take j) = .err e :=
  decVbLoop_all_cont _ (vbShape_take _ (encVb_shape x) j hj) 1 0

theorem take_ne_nil (l : Bytes) (j : Nat) (hj : 0 < j) (hl : l ≠ []) : l.take j ≠ [] :=
  fun h => (List.take_eq_nil_iff.mp h).elim (Nat.ne_of_gt hj) hl

theorem get_err_val {α} (dec : Dec α) (old : α) (d : Bytes) (e : Err) (hne : d ≠ []) (h : dec d = .err e) :
    ({ rest := d, st := .ok } : Buf).get dec old = ({ rest := d, st := .err e }, old) := by
  simp [Buf.get, hne, h]

theorem get_err {α} (dec : Dec α) (old : α) (d : Bytes) (e : Err) (hne : d ≠ []) (h : dec d = .err e) :
    (({ rest := d, st := .ok } : Buf).get dec old).1.st = .err e :=
  congrArg (·.1.st) (get_err_val dec old d e hne h)

theorem get_nil {α} (dec : Dec α) (old : α) : (({ rest := [], st := .ok } : Buf).get dec old).1.st = .err .missing := by
  simp [Buf.get]

/-- the loop ends `ok` only by its own test: when the declared length has been consumed -/
theorem getAnyLoop_ok (tbl : PropTable) (oldOf : UInt8 → List PropOcc → Bytes) (n0 plen : Nat) :
    ∀ (fuel : Nat) (b : Buf) (acc : List PropOcc), (getAnyLoop tbl oldOf n0 plen fuel b acc).1.st = .ok →
      plen ≤ n0 - (getAnyLoop tbl oldOf n0 plen fuel b acc).1.rest.length
  | 0, _, _ => fun h => nomatch h
  | fuel + 1, b, acc => by
    rw [getAnyLoop_succ]
    split
    next =>
      split
      next hne => exact fun h => absurd h hne
      next => split <;> exact getAnyLoop_ok tbl oldOf n0 plen fuel _ _
    next hge => exact fun _ => Nat.le_of_not_lt hge

theorem failed_of_safe_not_ok (b : Buf) (hs : b.Safe) (h : b.st ≠ .ok) : b.Failed := by
  obtain ⟨h1, h2⟩ := hs
  cases hst : b.st with
  | ok => exact absurd hst h
  | err e => exact ⟨e, hst⟩
  | panic => exact absurd hst h1
  | hang => exact absurd hst h2

/-- `bytes` is arbitrary, so the cut may fall inside the length, between two properties, between an identifier and its
value, or inside a value -/
theorem getAny_truncated (tbl : PropTable) (oldOf : UInt8 → List PropOcc → Bytes) (bytes : Bytes)
    (hL : bytes.length < 268435456) (j : Nat) (hj0 : 0 < j) (hj : j < (encVb bytes.length ++ bytes).length) :
    (({ rest := (encVb bytes.length ++ bytes).take j, st := .ok } : Buf).getAny tbl oldOf).1.Failed := by
  have hsafe := (getAny_safe { rest := (encVb bytes.length ++ bytes).take j, st := .ok } tbl oldOf (safe_init _)).1
  apply failed_of_safe_not_ok _ hsafe
  by_cases hin : j < (encVb bytes.length).length
  · -- inside the property length: its `get` fails
    obtain ⟨err, herr⟩ := decVb_prefix bytes.length j hin
    have hne := take_ne_nil (encVb bytes.length) j hj0 (encVb_ne_nil _)
    unfold Buf.getAny
    rw [List.take_append_of_le_length (by omega), if_neg hne, get_err_val decVb 0 _ err hne herr]
    exact (getAnyLoop_failed _ _ _ _ _ _ _ ⟨err, rfl⟩ (by omega)).not_ok
  · -- the property length is read; fewer bytes follow than it declares
    rw [List.take_append, List.take_of_length_le (by omega), getAny_len _ _ _ hL]
    intro hok
    have := getAnyLoop_ok _ _ _ _ _ _ _ hok
    simp only [List.length_take, List.length_append] at hj this; omega

end Mq
