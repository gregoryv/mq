import Proofs.RenderInv
/-!
# Proofs.RenderTotal — no renderer building block reaches a `.panic`

The renderers are built from `Rend.bind`; `bind_ne_panic` carries "cannot panic" through it, so each building
block needs only its leaves: the stringer tables of `ReasonCode.String` (a finite enumeration) and `quote`.
-/
namespace Mq

theorem bind_ne_panic {r : Rend} {f : Bytes → Rend} (hr : r ≠ .panic) (hf : ∀ b, f b ≠ .panic) : r.bind f ≠ .panic := by
  cases r with
  | ok b => exact hf b
  | unmodelled => exact Rend.noConfusion
  | panic => exact absurd rfl hr

/-- `ReasonCode(b).String()` on all 256 byte values: the stringer's table slicing never leaves its index or name arrays -/
theorem reasonCode_table (c : UInt8) : reasonCodeStr c ≠ .panic ∧ reasonCodeStr c ≠ .unmodelled :=
  UInt8.forall_of_fin c (by decide +kernel)

theorem reasonCode_defined (c : UInt8) : ∃ text, reasonCodeStr c = .ok text := by
  have h := reasonCode_table c
  cases hc : reasonCodeStr c with
  | ok t => exact ⟨t, rfl⟩
  | unmodelled => exact absurd hc h.2
  | panic => exact absurd hc h.1

theorem reasonCodeStr_ne_panic (c : UInt8) : reasonCodeStr c ≠ .panic := (reasonCode_table c).1

theorem withReason_ne_panic (c : UInt8) (r : Option Bytes) (v : Bytes) : withReason c r v ≠ .panic := by
  unfold withReason
  split
  · refine bind_ne_panic (reasonCodeStr_ne_panic c) fun cs => ?_
    split
    · split <;> exact Rend.noConfusion
    · exact Rend.noConfusion
  · exact Rend.noConfusion

theorem quote_ne_panic (b : Bytes) : quote b ≠ .panic := by unfold quote; split <;> exact Rend.noConfusion

theorem lineQ_ne_panic (n v : Bytes) : lineQ n v ≠ .panic :=
  bind_ne_panic (quote_ne_panic v) fun _ => Rend.noConfusion

theorem dumpUserPropsAux_ne_panic : ∀ (ups : UserProps) (i : Nat), dumpUserPropsAux i ups ≠ .panic
  | [], _ => Rend.noConfusion
  | (_, v) :: rest, i =>
    bind_ne_panic (quote_ne_panic v) fun _ =>
      bind_ne_panic (dumpUserPropsAux_ne_panic rest (i + 1)) fun _ => Rend.noConfusion

theorem dumpUserProps_ne_panic (ups : UserProps) : dumpUserProps ups ≠ .panic := by
  unfold dumpUserProps
  split
  · exact Rend.noConfusion
  · exact bind_ne_panic (dumpUserPropsAux_ne_panic ups 0) fun _ => Rend.noConfusion

theorem append_ne_panic {a b : Rend} (ha : a ≠ .panic) (hb : b ≠ .panic) : a.append b ≠ .panic :=
  bind_ne_panic ha fun _ => bind_ne_panic hb fun _ => Rend.noConfusion

theorem concat_ne_panic (l : List Rend) (h : ∀ r ∈ l, r ≠ .panic) : Rend.concat l ≠ .panic := by
  suffices ∀ (l : List Rend) (acc : Rend), acc ≠ .panic → (∀ r ∈ l, r ≠ .panic) → l.foldl Rend.append acc ≠ .panic from
    this l _ Rend.noConfusion h
  intro l
  induction l with
  | nil => exact fun _ ha _ => ha
  | cons x xs ih =>
    exact fun acc ha hl => ih _ (append_ne_panic ha (hl x List.mem_cons_self)) fun r hr => hl r (List.mem_cons_of_mem _ hr)

theorem reasonLine_ne_panic (c : UInt8) (n : Bytes) :
    ((reasonCodeStr c).bind fun cs => .ok (line n cs)) ≠ .panic :=
  bind_ne_panic (reasonCodeStr_ne_panic c) fun _ => Rend.noConfusion

theorem Publish.dump_ne_panic (p : Publish) : p.dump ≠ .panic :=
  bind_ne_panic (dumpUserProps_ne_panic _) fun _ => Rend.noConfusion

theorem Connect.dump_ne_panic (p : Connect) : p.dump ≠ .panic := by
  refine bind_ne_panic ?_ fun _ => bind_ne_panic (dumpUserProps_ne_panic _) fun _ => Rend.noConfusion
  cases p.will with
  | none => exact Rend.noConfusion
  | some w => exact bind_ne_panic w.dump_ne_panic fun _ => Rend.noConfusion

end Mq
