import Proofs.DConnect
/-!
# Proofs.DConnectL — the CONNECT decoder does not look at the protocol name or version

`UnmarshalBinary` stores the protocol name and version it reads and never consults them again: on
two bodies that differ only there, every later stage does the same thing. So what is proved of the
decoder on `MQTT`/5 frames carries to any name (up to 65 535 bytes) and any version.

The L is that of `InDomainL`, `LegalL`: the lenient domain, a CONNECT with any protocol name and version. Where other
types have a `D_…_L` theorem beside their decoder (`DSimple`, `DSub`), CONNECT has this substitution, applied in `Proofs.Codec`.
-/
namespace Mq

def Connect.setNV (n : Bytes) (v : UInt8) (p : Connect) : Connect := { p with protocolName := n, protocolVersion := v }

theorem Connect.setNV_self (q : Connect) : (q.setNV Connect.mqtt5 5).setNV q.protocolName q.protocolVersion = q := rfl

theorem Connect.applyOcc_setNV (n : Bytes) (v : UInt8) (p : Connect) (o : PropOcc) :
    (p.setNV n v).applyOcc o = (p.applyOcc o).setNV n v := by
  unfold Connect.applyOcc
  cases o.val <;> simp only [apply_ite (Connect.setNV n v)] <;> rfl

theorem Connect.fold_setNV (n : Bytes) (v : UInt8) (ps : List PropOcc) (p : Connect) :
    ps.foldl Connect.applyOcc (p.setNV n v) = (ps.foldl Connect.applyOcc p).setNV n v :=
  (foldl_fusion Connect.applyOcc Connect.applyOcc (Connect.setNV n v) ps
    (fun o _ p => (Connect.applyOcc_setNV n v p o).symm) p).symm

theorem Connect.readProps_setNV (n : Bytes) (v : UInt8) (p : Connect) (b : Buf) :
    (p.setNV n v).readProps b = ((p.readProps b).1, (p.readProps b).2.setNV n v) := by
  simp only [Connect.readProps, Connect.fold_setNV]
  rfl

theorem Connect.readClientID_setNV (n : Bytes) (v : UInt8) (p : Connect) (b : Buf) :
    (p.setNV n v).readClientID b = ((p.readClientID b).1, (p.readClientID b).2.setNV n v) := rfl

theorem Connect.readWill_setNV (n : Bytes) (v : UInt8) (p : Connect) (b : Buf) :
    (p.setNV n v).readWill b = ((p.readWill b).1, (p.readWill b).2.setNV n v) := by
  unfold Connect.readWill
  show (if has p.flags Connect.fWillFlag then _ else _) = _
  split <;> rfl

theorem Connect.readUsername_setNV (n : Bytes) (v : UInt8) (p : Connect) (b : Buf) :
    (p.setNV n v).readUsername b = ((p.readUsername b).1, (p.readUsername b).2.setNV n v) := by
  unfold Connect.readUsername
  show (if has p.flags Connect.fUsername then _ else _) = _
  split <;> rfl

theorem Connect.readPassword_setNV (n : Bytes) (v : UInt8) (p : Connect) (b : Buf) :
    (p.setNV n v).readPassword b = ((p.readPassword b).1, (p.readPassword b).2.setNV n v) := by
  unfold Connect.readPassword
  show (if has p.flags Connect.fPassword then _ else _) = _
  split <;> rfl

theorem Connect.readHead_subst (p : Connect) (hp : p.protocolName = []) (n : Bytes) (hn : n.length < 65536) (v : UInt8)
    (t : Bytes) :
    p.readHead { rest := encBin n ++ v :: t }
      = ((p.readHead { rest := encBin Connect.mqtt5 ++ 5 :: t }).1,
         (p.readHead { rest := encBin Connect.mqtt5 ++ 5 :: t }).2.setNV n v) := by
  simp only [Connect.readHead, hp, get_bin n hn, get_bin Connect.mqtt5 (by decide), get_u8]
  rfl

theorem Connect.unmarshal_subst (p : Connect) (hp : p.protocolName = []) (n : Bytes) (hn : n.length < 65536) (v : UInt8)
    (t : Bytes) :
    p.unmarshal (encBin n ++ v :: t)
      = ((p.unmarshal (encBin Connect.mqtt5 ++ 5 :: t)).1.setNV n v, (p.unmarshal (encBin Connect.mqtt5 ++ 5 :: t)).2) := by
  simp only [Connect.unmarshal, Connect.readHead_subst p hp n hn v t, Connect.readProps_setNV, Connect.readClientID_setNV,
    Connect.readWill_setNV, Connect.readUsername_setNV, Connect.readPassword_setNV]

theorem Connect.body?_split (q : Connect) (b : Bytes) (hb : q.body? = some b) :
    ∃ t, b = encBin q.protocolName ++ q.protocolVersion :: t
      ∧ (q.setNV Connect.mqtt5 5).body? = some (encBin Connect.mqtt5 ++ 5 :: t) := by
  simp only [Connect.body?, Option.map_eq_some_iff] at hb
  obtain ⟨pl, hpl, rfl⟩ := hb
  refine ⟨q.flags :: (encU16 q.keepAlive ++ encVb q.props.length ++ q.props ++ pl), ?_, ?_⟩
  · simp [Connect.varHeader]
  · have : (q.setNV Connect.mqtt5 5).payload? = some pl := hpl
    simp only [Connect.body?, this, Option.map_some, Option.some.injEq]
    simp [Connect.varHeader, Connect.setNV, Connect.props]

/-- the twin's length bound in `Connect.InDomainL` is implied by the packet's own -/
theorem Connect.twin_bound (q : Connect) (h : ∀ b, q.body? = some b → b.length < 268435456) :
    ∀ b, (q.setNV Connect.mqtt5 5).body? = some b → b.length < 268435456 + 4 := by
  intro b hb
  cases hq : q.body? with
  | none =>
    have : (q.setNV Connect.mqtt5 5).body? = none := by
      simp only [Connect.body?, Option.map_eq_none_iff] at hq ⊢; exact hq
    rw [this] at hb; cases hb
  | some b0 =>
    obtain ⟨t, rfl, h0⟩ := Connect.body?_split q b0 hq
    rw [h0] at hb; simp only [Option.some.injEq] at hb; subst hb
    have := h _ hq
    have hn : Connect.mqtt5.length = 4 := rfl
    simp only [List.length_append, List.length_cons, encBin, hn] at this ⊢
    omega

end Mq
