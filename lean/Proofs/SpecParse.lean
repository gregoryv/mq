import Proofs.SpecBridge
import Proofs.ConnectBody
/-!
# Proofs.SpecParse — the strict specification parser reads back what the specification writer wrote (S)

`Spec.parse (sp.unparse) = some sp` for every legal abstract packet: the two halves of the
specification layer — the generator that defines the valid-frame language and the strict parser
used as the dynamic oracle of C02/C03 — agree. Spec-internal: no encoder or decoder of the library model is
involved; what is used of `Mq` is the primitive encoders (MQTT §1.5) both sides share, and lemmas about the specification's
own definitions that the decoder side needs as well (`Proofs.SpecBridge`: a legal occurrence, the bound of a property
section; `Proofs.ConnectBody`: CONNECT's body and flags byte).

Every reader has one lemma `rd.run (enc v ++ r) = some (v, r)`. A packet body is brought into the
form `f₁ ++ (f₂ ++ (… ++ (fₙ ++ [])))`, so that each field, the last too, stands before a `++`, and the parser's `do`
block is walked statement by statement: `run_bind_of` (a reader, by its lemma), `run_guard`, `run_if_pos/neg` each consume
one statement and leave its continuation as the goal.
-/
namespace Spec
open Mq (Bytes WVal WKind PropOcc encU16 encU32 encBin encVb encV encBool encPair)

theorem run_bind_of {α β} {p : P α} {f : α → P β} {s s' : Bytes} {a : α} {res : Option (β × Bytes)}
    (h : p.run s = some (a, s')) (hk : (f a).run s' = res) : (p >>= f).run s = res := by
  rw [StateT.run_bind, h]; exact hk

theorem run_guard {β} {c : Bool} {k : Unit → P β} {s : Bytes} {res : Option (β × Bytes)}
    (h : c = true) (hk : (k ()).run s = res) : (guardP c >>= k).run s = res := by
  subst h; exact hk

theorem run_if_pos {β} {c : Prop} [Decidable c] {p q : P β} {s : Bytes} {res : Option (β × Bytes)}
    (h : c) (hk : p.run s = res) : (if c then p else q).run s = res := by
  rw [if_pos h]; exact hk

theorem run_if_neg {β} {c : Prop} [Decidable c] {p q : P β} {s : Bytes} {res : Option (β × Bytes)}
    (h : ¬ c) (hk : q.run s = res) : (if c then p else q).run s = res := by
  rw [if_neg h]; exact hk

theorem rdU8_cons (b : UInt8) (r : Bytes) : rdU8.run (b :: r) = some (b, r) := rfl

theorem rdU16_enc (v : UInt16) (r : Bytes) : rdU16.run (encU16 v ++ r) = some (v, r) :=
  congrArg (fun x => some (x, r)) (UInt16.toNat_inj.mp (Mq.be16_ofNat _ v.toNat_lt))

theorem rdU32_enc (v : UInt32) (r : Bytes) : rdU32.run (encU32 v ++ r) = some (v, r) := by
  refine congrArg (fun x => some (x, r)) (UInt32.toNat_inj.mp ?_)
  -- what the two `rdU16` compute; `be16_ofNat` applies at `v / 65536` and at `v % 65536`
  show (UInt32.ofNat ((UInt16.ofNat ((UInt8.ofNat (v.toNat / 16777216)).toNat * 256
      + (UInt8.ofNat (v.toNat / 65536 % 256)).toNat)).toNat * 65536
    + (UInt16.ofNat ((UInt8.ofNat (v.toNat / 256 % 256)).toNat * 256 + (UInt8.ofNat (v.toNat % 256)).toNat)).toNat)).toNat
    = v.toNat
  rw [← Nat.div_div_eq_div_mul v.toNat 65536 256, ← Nat.mod_mul_right_div_self v.toNat 256 256,
    ← Nat.mod_mod_of_dvd v.toNat (⟨256, rfl⟩ : 256 ∣ 256 * 256),
    Mq.be16_ofNat _ (Nat.div_lt_of_lt_mul v.toNat_lt), Mq.be16_ofNat _ (Nat.mod_lt _ (by decide)),
    UInt32.toNat_ofNat', Nat.div_add_mod' v.toNat (256 * 256)]
  exact Nat.mod_eq_of_lt v.toNat_lt

theorem rdBytes_append (v r : Bytes) : (rdBytes v.length).run (v ++ r) = some (v, r) := by
  simp [rdBytes, StateT.run]

theorem rdStr_enc (v : Bytes) (h : v.length < 65536) (r : Bytes) : rdStr.run (encBin v ++ r) = some (v, r) := by
  rw [Mq.encBin_eq, List.append_assoc]
  apply run_bind_of (rdU16_enc _ _)
  rw [UInt16.toNat_ofNat_of_lt' h]; exact rdBytes_append v r

theorem rdBool_enc (v : Bool) (r : Bytes) : rdBool.run (encBool v ++ r) = some (v, r) := by
  cases v <;> rfl

theorem rdVbiAux_cons (fuel mult acc : Nat) (b : UInt8) (r : Bytes) :
    (rdVbiAux (fuel + 1) mult acc).run (b :: r) =
      if b.toNat < 128 then (if mult > 1 ∧ b = 0 then none else some (acc + b.toNat % 128 * mult, r))
      else (rdVbiAux fuel (mult * 128) (acc + b.toNat % 128 * mult)).run r := by
  simp only [rdVbiAux, StateT.run_bind, rdU8_cons, Option.bind_eq_bind, Option.bind_some]
  split
  · split <;> rfl
  · rfl

theorem rdVbiAux_enc : ∀ (fuel x mult acc : Nat) (r : Bytes), (mult = 1 ∨ 1 ≤ x) → (encVb x).length ≤ fuel →
    (rdVbiAux fuel mult acc).run (encVb x ++ r) = some (acc + x * mult, r)
  | 0, x, _, _, _, _, hf => absurd (Mq.encVb_length_pos x) (by omega)
  | fuel + 1, x, mult, acc, r, hm, hf => by
    rw [Mq.encVb_eq] at hf ⊢
    by_cases hx : x < 128
    · have hz : ¬ (mult > 1 ∧ UInt8.ofNat x = 0) := fun ⟨h1, h2⟩ => by
        have : x = 0 := by rw [← Mq.toNat_last hx, h2]; rfl
        omega
      rw [if_pos hx, List.cons_append, List.nil_append, rdVbiAux_cons, Mq.toNat_last hx, if_pos hx, if_neg hz,
        Nat.mod_eq_of_lt hx]
    · rw [if_neg hx] at hf
      rw [if_neg hx, List.cons_append, rdVbiAux_cons, Mq.toNat_cont, if_neg (by omega), Nat.add_mod_right, Nat.mod_mod,
        rdVbiAux_enc fuel (x / 128) _ _ r (.inr (by omega)) (Nat.le_of_succ_le_succ hf), Mq.vb_acc]

theorem rdVbi_enc (n : Nat) (hn : n < 268435456) (r : Bytes) : rdVbi.run (encVb n ++ r) = some (n, r) := by
  have := rdVbiAux_enc 4 n 1 0 r (.inl rfl) (Mq.encVb_length_le 3 n hn)
  rwa [Nat.zero_add, Nat.mul_one] at this

theorem rdVal_enc (v : WVal) (h : valInRange v = true) (r : Bytes) : (rdVal v.kind).run (encV v ++ r) = some (v, r) := by
  cases v <;>
    simp only [valInRange, Bool.and_eq_true, decide_eq_true_eq] at h <;>
    simp only [rdVal, WVal.kind, encV, encPair, List.append_assoc, List.cons_append, List.nil_append, StateT.run_bind,
      StateT.run_pure, Option.pure_def, Option.bind_eq_bind, Option.bind_some, rdU8_cons, rdU16_enc, rdU32_enc,
      rdBool_enc, rdStr_enc, rdVbi_enc, h]

theorem rdOccs_enc (k : Nat) : ∀ (ps : List PropOcc) (fuel : Nat), (∀ o ∈ ps, occLegal k o = true) → ps.length < fuel →
    rdOccs fuel (propBytes ps) = some ps
  | [], fuel + 1, _, _ => rfl
  | o :: ps, fuel + 1, hl, hf => by
    obtain ⟨d, -, hd, -, -, hty, hr⟩ := Mq.occLegal_entry (hl o List.mem_cons_self)
    show rdOccs (fuel + 1) (o.id :: (encV o.val ++ propBytes ps)) = _
    simp only [rdOccs, hd, hty, rdVal_enc o.val hr,
      rdOccs_enc k ps fuel (fun x hx => hl x (List.mem_cons_of_mem _ hx)) (Nat.lt_of_succ_lt_succ hf), Option.map_some]

theorem rdProps_enc (k : Nat) (ps : List PropOcc) (hl : propsLegal k ps = true) (hlen : (propSection ps).length < 268435456)
    (r : Bytes) : (rdProps k).run (propSection ps ++ r) = some (ps, r) := by
  have hall : ∀ o ∈ ps, occLegal k o = true := List.all_eq_true.mp (Bool.and_eq_true_iff.mp hl).1
  rw [rdProps, propSection, List.append_assoc]
  have hb : (propBytes ps).length < 268435456 := Nat.lt_of_le_of_lt (Mq.section_len_le ps) hlen
  have hf : ps.length < (propBytes ps).length + 1 := Nat.lt_succ_of_le (Mq.occs_length_le ps)
  apply run_bind_of (rdVbi_enc _ hb _)
  apply run_bind_of (rdBytes_append _ _)
  rw [rdOccs_enc k ps _ hall hf]
  exact run_if_pos hl rfl

theorem propSection_isEmpty (ps : List PropOcc) (r : Bytes) : (propSection ps ++ r).isEmpty = false := by
  cases h : propSection ps ++ r with
  | nil => exact absurd (List.append_eq_nil_iff.mp (List.append_eq_nil_iff.mp h).1).1 (Mq.encVb_ne_nil _)
  | cons _ _ => rfl

theorem guardP_true : (guardP true).run = fun s => some ((), s) := rfl

theorem atEnd_run (s : Bytes) : atEnd.run s = some (s.isEmpty, s) := rfl

theorem rest_run (s : Bytes) : rest.run (s ++ []) = some (s, []) := by rw [List.append_nil]; rfl

theorem parse_of_body (first : UInt8) (body : Bytes) (sp : SPacket) (hlen : body.length < 268435456)
    (h : (parseBody first).run (body ++ []) = some (sp, [])) : parse (mkFrame first body) = some sp := by
  have hv := rdVbi_enc body.length hlen body
  simp only [StateT.run, List.append_nil] at hv h
  simp only [parse, mkFrame, StateT.run, hv, ne_eq, not_true_eq_false, if_false, h]

theorem S_connack (sess : Bool) (reason : UInt8) (ps : List PropOcc) (hl : (SPacket.connack sess reason ps).Legal) :
    parse (SPacket.connack sess reason ps).unparse = some (SPacket.connack sess reason ps) := by
  obtain ⟨hleg, hlen⟩ := hl
  apply parse_of_body _ _ _ hlen
  have hpl := Mq.section_fits ps [if sess then 1 else 0, reason] [] (by rwa [List.append_nil])
  rw [SPacket.firstByte, parseBody, (by decide : ((0x20 : UInt8) >>> 4).toNat = 2)]
  apply run_guard (by decide)
  apply run_bind_of (rdU8_cons _ _)
  apply run_guard (by cases sess <;> decide)
  apply run_bind_of (rdU8_cons _ _)
  apply run_bind_of (rdProps_enc 2 ps hleg hpl _)
  apply run_bind_of (atEnd_run _)
  apply run_guard rfl
  cases sess <;> rfl

def formBytes (form : Form) (reason : UInt8) (ps : List PropOcc) : Bytes :=
  match form with
  | .bare => []
  | .reason => [reason]
  | .full => [reason] ++ propSection ps

theorem rdFormed_enc (k : Nat) (form : Form) (reason : UInt8) (ps : List PropOcc) (hl : propsLegal k ps = true)
    (hf : SPacket.formLegal form reason ps = true) (hlen : (formBytes form reason ps).length < 268435456) :
    (rdFormed k).run (formBytes form reason ps ++ []) = some ((form, reason, ps), []) := by
  cases form with
  | bare =>
    obtain ⟨rfl, rfl⟩ : reason = 0 ∧ ps = [] := by
      simpa only [SPacket.formLegal, Bool.and_eq_true, beq_iff_eq, List.isEmpty_iff] using hf
    rfl
  | reason =>
    obtain rfl : ps = [] := by simpa only [SPacket.formLegal, List.isEmpty_iff] using hf
    rfl
  | full =>
    have hpl := Mq.section_fits ps [reason] [] (by rwa [List.append_nil])
    rw [rdFormed]
    show StateT.run _ (reason :: (propSection ps ++ [])) = _
    apply run_bind_of (atEnd_run _)
    apply run_if_neg Bool.false_ne_true
    apply run_bind_of (rdU8_cons _ _)
    apply run_bind_of (atEnd_run _)
    apply run_if_neg (propSection_isEmpty ps [] ▸ Bool.false_ne_true)
    apply run_bind_of (rdProps_enc k ps hl hpl _)
    rfl

theorem S_disconnect (form : Form) (reason : UInt8) (ps : List PropOcc) (hl : (SPacket.disconnect form reason ps).Legal) :
    parse (SPacket.disconnect form reason ps).unparse = some (SPacket.disconnect form reason ps) := by
  obtain ⟨hleg, hlen⟩ := hl
  simp only [SPacket.legal, Bool.and_eq_true] at hleg
  apply parse_of_body _ _ _ hlen
  have hb : (SPacket.disconnect form reason ps).body = formBytes form reason ps := by cases form <;> rfl
  rw [hb] at hlen ⊢
  rw [SPacket.firstByte, parseBody, (by decide : ((0xe0 : UInt8) >>> 4).toNat = 14)]
  apply run_guard (by decide)
  apply run_bind_of (rdFormed_enc 14 form reason ps hleg.1 hleg.2 hlen)
  apply run_bind_of (atEnd_run _)
  apply run_guard rfl
  rfl

theorem S_auth (form : Form) (reason : UInt8) (ps : List PropOcc) (hl : (SPacket.auth form reason ps).Legal) :
    parse (SPacket.auth form reason ps).unparse = some (SPacket.auth form reason ps) := by
  obtain ⟨hleg, hlen⟩ := hl
  simp only [SPacket.legal, Bool.and_eq_true] at hleg
  apply parse_of_body _ _ _ hlen
  have hb : (SPacket.auth form reason ps).body = formBytes form reason ps := by cases form <;> rfl
  rw [hb] at hlen ⊢
  rw [SPacket.firstByte, parseBody, (by decide : ((0xf0 : UInt8) >>> 4).toNat = 15)]
  apply run_guard (by decide)
  apply run_bind_of (rdFormed_enc 15 form reason ps hleg.1.1 hleg.1.2 hlen)
  apply run_bind_of (atEnd_run _)
  apply run_guard rfl
  apply run_guard hleg.2
  rfl

/-- PINGREQ and PINGRESP have no content: two concrete frames -/
theorem S_ping (k : Nat) (hl : (SPacket.ping k).Legal) : parse (SPacket.ping k).unparse = some (SPacket.ping k) := by
  obtain ⟨hleg, -⟩ := hl
  simp only [SPacket.legal, Bool.or_eq_true, beq_iff_eq] at hleg
  rcases hleg with rfl | rfl <;> decide

theorem S_ack (k : Nat) (pid : UInt16) (form : Form) (reason : UInt8) (ps : List PropOcc)
    (hl : (SPacket.ack k pid form reason ps).Legal) :
    parse (SPacket.ack k pid form reason ps).unparse = some (SPacket.ack k pid form reason ps) := by
  obtain ⟨hleg, hlen⟩ := hl
  simp only [SPacket.legal, Bool.and_eq_true, decide_eq_true_eq] at hleg
  obtain ⟨⟨⟨hk1, hk2⟩, hps⟩, hform⟩ := hleg
  apply parse_of_body _ _ _ hlen
  have hb : (SPacket.ack k pid form reason ps).body = encU16 pid ++ formBytes form reason ps := by cases form <;> rfl
  rw [hb] at hlen ⊢
  have hf := rdFormed_enc k form reason ps hps hform (by simp only [List.length_append] at hlen; omega)
  have hk : k = 4 ∨ k = 5 ∨ k = 6 ∨ k = 7 := by omega
  have hty : ((if k = 6 then 0x62 else UInt8.ofNat (k * 16) : UInt8) >>> 4).toNat = k := by
    rcases hk with rfl | rfl | rfl | rfl <;> decide
  rw [SPacket.firstByte, parseBody, hty, List.append_assoc]
  rcases hk with rfl | rfl | rfl | rfl <;>
  · apply run_guard (by decide)
    apply run_bind_of (rdU16_enc _ _)
    apply run_bind_of hf
    apply run_bind_of (atEnd_run _)
    apply run_guard rfl
    rfl

theorem S_suback (k : Nat) (pid : UInt16) (ps : List PropOcc) (codes : Bytes) (hl : (SPacket.suback k pid ps codes).Legal) :
    parse (SPacket.suback k pid ps codes).unparse = some (SPacket.suback k pid ps codes) := by
  obtain ⟨hleg, hlen⟩ := hl
  simp only [SPacket.legal, Bool.and_eq_true, Bool.or_eq_true, beq_iff_eq] at hleg
  obtain ⟨⟨hk, hps⟩, hcodes⟩ := hleg
  apply parse_of_body _ _ _ hlen
  have hpl := Mq.section_fits ps (encU16 pid) codes hlen
  have hty : ((UInt8.ofNat (k * 16)) >>> 4).toNat = k := by rcases hk with rfl | rfl <;> decide
  rw [SPacket.firstByte, parseBody, hty, SPacket.body, List.append_assoc, List.append_assoc]
  rcases hk with rfl | rfl <;>
  · apply run_guard (by decide)
    apply run_bind_of (rdU16_enc _ _)
    apply run_bind_of (rdProps_enc _ ps hps hpl _)
    apply run_bind_of (rest_run _)
    apply run_guard hcodes
    rfl

theorem rdFilters_enc : ∀ (fs : List (Bytes × UInt8)) (fuel : Nat), (∀ f ∈ fs, f.1.length < 65536) → fs.length < fuel →
    (rdFilters fuel).run (fs.flatMap (fun f => encBin f.1 ++ [f.2]) ++ []) = some (fs, [])
  | [], fuel + 1, _, _ => rfl
  | f :: fs, fuel + 1, hs, hf => by
    rw [rdFilters, List.flatMap_cons, List.append_assoc, List.append_assoc]
    apply run_bind_of (atEnd_run _)
    apply run_if_neg Bool.false_ne_true
    apply run_bind_of (rdStr_enc f.1 (hs f List.mem_cons_self) _)
    apply run_bind_of (rdU8_cons _ _)
    apply run_bind_of (rdFilters_enc fs fuel (fun x hx => hs x (List.mem_cons_of_mem _ hx)) (Nat.lt_of_succ_lt_succ hf))
    rfl

theorem rdTopics_enc : ∀ (fs : List Bytes) (fuel : Nat), (∀ f ∈ fs, f.length < 65536) → fs.length < fuel →
    (rdTopics fuel).run (fs.flatMap encBin ++ []) = some (fs, [])
  | [], fuel + 1, _, _ => rfl
  | f :: fs, fuel + 1, hs, hf => by
    rw [rdTopics, List.flatMap_cons, List.append_assoc]
    apply run_bind_of (atEnd_run _)
    apply run_if_neg Bool.false_ne_true
    apply run_bind_of (rdStr_enc f (hs f List.mem_cons_self) _)
    apply run_bind_of (rdTopics_enc fs fuel (fun x hx => hs x (List.mem_cons_of_mem _ hx)) (Nat.lt_of_succ_lt_succ hf))
    rfl

/-- the fuel `parseBody` gives the list readers: one more than the bytes left -/
theorem flatMap_fuel {α} (l : List α) (f : α → Bytes) (h : ∀ x, 0 < (f x).length) : l.length < (l.flatMap f ++ []).length + 1 := by
  induction l with
  | nil => exact Nat.zero_lt_one
  | cons a t ih =>
    simp only [List.flatMap_cons, List.append_assoc, List.length_append, List.length_cons] at ih ⊢; have := h a; omega

theorem S_subscribe (pid : UInt16) (ps : List PropOcc) (filters : List (Bytes × UInt8))
    (hl : (SPacket.subscribe pid ps filters).Legal) :
    parse (SPacket.subscribe pid ps filters).unparse = some (SPacket.subscribe pid ps filters) := by
  obtain ⟨hleg, hlen⟩ := hl
  simp only [SPacket.legal, Bool.and_eq_true, List.all_eq_true, SPacket.strOK, decide_eq_true_eq] at hleg
  obtain ⟨⟨hps, hne⟩, hfs⟩ := hleg
  apply parse_of_body _ _ _ hlen
  have hpl := Mq.section_fits ps (encU16 pid) _ hlen
  have hg : (filters.all fun f => f.2 &&& 0xc0 == 0 && f.2 &&& 3 != 3 && f.2 &&& 0x30 != 0x30) = true := by
    simp only [List.all_eq_true, Bool.and_eq_true]
    exact fun f hf => ⟨⟨(hfs f hf).1.1.2, (hfs f hf).1.2⟩, (hfs f hf).2⟩
  rw [SPacket.firstByte, parseBody, (by decide : ((0x82 : UInt8) >>> 4).toNat = 8), SPacket.body, List.append_assoc,
    List.append_assoc]
  apply run_guard (by decide)
  apply run_bind_of (rdU16_enc _ _)
  apply run_bind_of (rdProps_enc 8 ps hps hpl _)
  apply run_bind_of (StateT.run_get _)
  apply run_bind_of (rdFilters_enc filters _ (fun f hf => (hfs f hf).1.1.1)
    (flatMap_fuel filters (fun f => encBin f.1 ++ [f.2]) fun _ => Nat.succ_pos _))
  apply run_guard (by rw [hne, hg]; rfl)
  rfl

theorem S_unsubscribe (pid : UInt16) (ps : List PropOcc) (filters : List Bytes)
    (hl : (SPacket.unsubscribe pid ps filters).Legal) :
    parse (SPacket.unsubscribe pid ps filters).unparse = some (SPacket.unsubscribe pid ps filters) := by
  obtain ⟨hleg, hlen⟩ := hl
  simp only [SPacket.legal, Bool.and_eq_true, List.all_eq_true, SPacket.strOK, decide_eq_true_eq] at hleg
  obtain ⟨⟨hps, hne⟩, hfs⟩ := hleg
  apply parse_of_body _ _ _ hlen
  have hpl := Mq.section_fits ps (encU16 pid) _ hlen
  rw [SPacket.firstByte, parseBody, (by decide : ((0xa2 : UInt8) >>> 4).toNat = 10), SPacket.body, List.append_assoc,
    List.append_assoc]
  apply run_guard (by decide)
  apply run_bind_of (rdU16_enc _ _)
  apply run_bind_of (rdProps_enc 10 ps hps hpl _)
  apply run_bind_of (StateT.run_get _)
  apply run_bind_of (rdTopics_enc filters _ hfs (flatMap_fuel filters encBin fun _ => Nat.succ_pos _))
  apply run_guard hne
  rfl

theorem publish_flags_parse : ∀ (dup retain : Bool) (q : Fin 3),
    let fb := (SPacket.publish dup (UInt8.ofNat q.val) retain [] 0 [] []).firstByte
    (fb >>> 4).toNat = 3 ∧ ((fb &&& 0x0f) >>> 1) &&& 3 = UInt8.ofNat q.val
      ∧ ((fb &&& 0x0f) &&& 8 != 0) = dup ∧ ((fb &&& 0x0f) &&& 1 != 0) = retain := by
  decide

/-- `hpid`: at QoS 0 there is no packet identifier on the wire -/
theorem S_publish (dup : Bool) (qos : UInt8) (retain : Bool) (topic : Bytes) (pid : UInt16) (ps : List PropOcc)
    (payload : Bytes) (hl : (SPacket.publish dup qos retain topic pid ps payload).Legal) (hpid : qos = 0 → pid = 0) :
    parse (SPacket.publish dup qos retain topic pid ps payload).unparse
      = some (SPacket.publish dup qos retain topic pid ps payload) := by
  obtain ⟨hleg, hlen⟩ := hl
  simp only [SPacket.legal, Bool.and_eq_true, decide_eq_true_eq, SPacket.strOK] at hleg
  obtain ⟨⟨hq, htopic⟩, hps⟩ := hleg
  apply parse_of_body _ _ _ hlen
  have hpl := Mq.section_fits ps (encBin topic ++ if qos = 0 then [] else encU16 pid) payload hlen
  obtain ⟨hty, hqq, hdd, hrr⟩ := publish_flags_parse dup retain ⟨qos.toNat, Nat.lt_succ_of_le hq⟩
  simp only [UInt8.ofNat_toNat] at hty hqq hdd hrr
  -- the first byte depends on `dup`, `qos`, `retain` alone: it is the byte of the packet the table speaks of
  change (parseBody (SPacket.publish dup qos retain [] 0 [] []).firstByte).run _ = _
  generalize (SPacket.publish dup qos retain [] 0 [] []).firstByte = fb at hty hqq hdd hrr
  rw [parseBody, hty, hqq, hdd, hrr, SPacket.body, List.append_assoc, List.append_assoc, List.append_assoc]
  apply run_guard (decide_eq_true hq)
  apply run_bind_of (rdStr_enc topic htopic _)
  by_cases h0 : qos = 0
  · obtain rfl := hpid h0
    rw [if_pos h0, if_pos h0, List.nil_append]
    apply run_bind_of (StateT.run_pure _ _)
    apply run_bind_of (rdProps_enc 3 ps hps hpl _)
    apply run_bind_of (rest_run _)
    rfl
  · rw [if_neg h0, if_neg h0]
    apply run_bind_of (rdU16_enc _ _)
    apply run_bind_of (rdProps_enc 3 ps hps hpl _)
    apply run_bind_of (rest_run _)
    rfl

/-- an optional string of the CONNECT payload, in the shape the `do` block has once its join point is
unfolded: both branches end in the same continuation `k` -/
theorem run_optStr {β} {c : Bool} {o : Option Bytes} {k : Option Bytes → P β} {r : Bytes} {res : Option (β × Bytes)}
    (ho : ∀ u, o = some u → u.length < 65536) (hc : c = o.isSome)
    (hk : (k o).run r = res) :
    (if c = true then rdStr >>= fun x => pure (some x) >>= k else pure none >>= k).run (Mq.optField o ++ r) = res := by
  subst hc
  cases o with
  | none => exact hk
  | some u => exact run_bind_of (rdStr_enc u (ho u rfl) r) hk

theorem S_connect (cs : Bool) (ka : UInt16) (ps : List PropOcc) (cid : Bytes) (will : Option SWill)
    (user pass : Option Bytes) (hl : (SPacket.connect cs ka ps cid will user pass).Legal) :
    parse (SPacket.connect cs ka ps cid will user pass).unparse = some (SPacket.connect cs ka ps cid will user pass) := by
  obtain ⟨hps, hsec, hcid, hw, huser, hpass⟩ := Mq.Connect.legal_parts hl.1 (Nat.lt_add_right 4 hl.2)
  apply parse_of_body _ _ _ hl.2
  rw [Mq.connect_body_eq]
  have hty : ((0x10 : UInt8) >>> 4).toNat = 1 := by decide
  generalize hcf : SPacket.connectFlags cs will user pass = cf
  obtain ⟨t1, t4, t2, t80, t40, tq, tr⟩ := connectFlags_parse (will := will) (fun w h => (hw w h).1) hcf
  simp only [List.append_assoc, List.cons_append, List.nil_append]
  rw [SPacket.firstByte, parseBody, hty]
  apply run_guard (by decide)
  apply run_bind_of (rdStr_enc _ (by decide) _)
  apply run_guard (by decide)
  apply run_bind_of (rdU8_cons _ _)
  apply run_guard (by decide)
  apply run_bind_of (rdU8_cons _ _)
  apply run_guard t1
  cases will with
  | none =>
    apply run_guard (by rw [tq, t4, tr]; decide)
    apply run_bind_of (rdU16_enc _ _)
    apply run_bind_of (rdProps_enc 1 ps hps hsec _)
    apply run_bind_of (rdStr_enc cid hcid _)
    apply run_if_neg (by rw [t4]; decide)
    apply run_bind_of (StateT.run_pure _ _)
    apply run_optStr huser t80
    apply run_optStr hpass t40
    apply run_bind_of (atEnd_run _)
    apply run_guard rfl
    rw [t2]; rfl
  | some w =>
    obtain ⟨hwq, hwps, hwt, hwy, hwsec⟩ := hw w rfl
    apply run_guard (by rw [tq, t4]; simp only [Option.elim_some, hwq, decide_true, Option.isSome_some, Bool.true_or, Bool.and_self])
    apply run_bind_of (rdU16_enc _ _)
    apply run_bind_of (rdProps_enc 1 ps hps hsec _)
    apply run_bind_of (rdStr_enc cid hcid _)
    apply run_if_pos t4
    simp only [Mq.willBytes, List.append_assoc]
    apply run_bind_of (rdProps_enc willK w.props hwps hwsec _)
    apply run_bind_of (rdStr_enc w.topic hwt _)
    apply run_bind_of (rdStr_enc w.payload hwy _)
    apply run_bind_of (StateT.run_pure _ _)
    apply run_optStr huser t80
    apply run_optStr hpass t40
    apply run_bind_of (atEnd_run _)
    apply run_guard rfl
    rw [t2, tq, tr]; rfl

/-- of abstract packets: `unparse` does not write the packet identifier of a QoS 0 PUBLISH, so only identifier 0 is
read back (`Mq.Packet.Canon` is unrelated: it is about model CONNECTs and their will) -/
def SPacket.Canonical : SPacket → Prop
  | .publish _ qos _ _ pid _ _ => qos = 0 → pid = 0
  | _ => True

/-- **S**: the strict parser reads back every legal abstract packet from its writing -/
theorem parse_unparse (sp : SPacket) (hl : sp.Legal) (hc : sp.Canonical) : parse sp.unparse = some sp := by
  cases sp with
  | connect cs ka ps cid will user pass => exact S_connect cs ka ps cid will user pass hl
  | connack s r ps => exact S_connack s r ps hl
  | publish d q r t pid ps pl => exact S_publish d q r t pid ps pl hl hc
  | ack k pid f r ps => exact S_ack k pid f r ps hl
  | subscribe pid ps fs => exact S_subscribe pid ps fs hl
  | suback k pid ps cs => exact S_suback k pid ps cs hl
  | unsubscribe pid ps fs => exact S_unsubscribe pid ps fs hl
  | ping k => exact S_ping k hl
  | disconnect f r ps => exact S_disconnect f r ps hl
  | auth f r ps => exact S_auth f r ps hl

end Spec
