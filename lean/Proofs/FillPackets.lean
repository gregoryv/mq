import Proofs.Fill
import Proofs.EncodeFields
import Mq.Render
/-!
# Proofs.FillPackets — every packet's Go-shaped `fill` refines `Packet.encode`

A property section is written field by field from the same list (`Tie.connackFields` …) that `T.props` is the encoding of
(`Tie.M2_*`), so one lemma about field lists serves every `propertiesG`.
-/
namespace Mq

/-- the `fillProp` calls of a `properties` method, then whatever follows them (`gs`: the user properties, PUBLISH's
subscription identifiers) -/
theorem fillFields_sound (fs : List (UInt8 × WVal)) {gs : List Filler} {bss : List Bytes} (t : Sounds gs bss) :
    Sound (Filler.seqs (fs.map (fun f => fillProp f.1 f.2) ++ gs)) (Tie.encFields fs ++ bss.flatten) := by
  induction fs with
  | nil => exact (Sound.seqs t).cast (by simp [Tie.encFields])
  | cons f fs ih => exact ((fillProp_sound f.1 f.2).seq ih).cast (by simp [Tie.encFields])

/-- a `properties` method that ends with the user properties; `h` is the type's `Tie.M2_*`. On a packet's own field list
the `map` and the `++` evaluate, so for `fs := T.fields p` the filler in the statement is `p.propertiesG` as it is written. -/
theorem propsG_sound (fs : List (UInt8 × WVal)) (ups : UserProps) {props : Bytes}
    (h : props = Tie.encFields fs ++ encUserProps ups) :
    Sound (Filler.seqs (fs.map (fun f => fillProp f.1 f.2) ++ [fillUserProps ups])) props :=
  (fillFields_sound fs (.cons (fillUserProps_sound ups) .nil)).cast (by rw [h, List.flatten_singleton])

theorem Ack.propertiesG_sound (p : Ack) : Sound p.propertiesG p.props :=
  propsG_sound p.fields p.userProps (Tie.M2_acks p)

theorem Ack.variableHeaderG_sound (p : Ack) : Sound p.variableHeaderG p.body := by
  have hp := p.propertiesG_sound
  have hd := hp.dry
  unfold Ack.variableHeaderG Ack.body
  simp only [hd, gt_iff_lt, List.length_pos_iff]
  exact (Sound.seqs (.cons (fillU16_sound _)
    (.cons (Sound.ite (fillByte_sound _) Sound.nop)
      (.cons (Sound.ite (Sound.seq (fillVb_sound _) hp) Sound.nop) .nil)))).cast (by simp)

theorem Ack.fillG_sound (p : Ack) : Sound p.fillG p.encode := fillFrame_sound _ p.variableHeaderG_sound

theorem Ping.fillG_sound (p : Ping) : Sound p.fillG p.encode :=
  (Sound.seqs (.cons (fillByte_sound _) (.cons (fillVb_sound 0) .nil))).cast (by simp [Ping.encode])

/-- the variable header of DISCONNECT and AUTH: nothing at all when the reason code is 0 and there are no properties,
else reason code and the property section behind its length -/
theorem reasonProps_sound (rc : UInt8) {f : Filler} {bs : Bytes} (h : Sound f bs) :
    Sound (fun b i => if rc = 0 ∧ f.dry = 0 then (b, 0) else Filler.seqs [fillByte rc, fillVb f.dry, f] b i)
      (if rc = 0 ∧ bs = [] then [] else [rc] ++ encVb bs.length ++ bs) := by
  simp only [h.dry, List.length_eq_zero_iff]
  exact Sound.branch Sound.nop
    ((Sound.seqs (.cons (fillByte_sound _) (.cons (fillVb_sound _) (.cons h .nil)))).cast (by simp))

theorem Disconnect.propertiesG_sound (p : Disconnect) : Sound p.propertiesG p.props :=
  propsG_sound p.fields p.userProps (Tie.M2_disconnect p)

theorem Disconnect.variableHeaderG_sound (p : Disconnect) : Sound p.variableHeaderG p.body :=
  reasonProps_sound p.reasonCode p.propertiesG_sound

theorem Disconnect.fillG_sound (p : Disconnect) : Sound p.fillG p.encode := fillFrame_sound _ p.variableHeaderG_sound

theorem Auth.propertiesG_sound (p : Auth) : Sound p.propertiesG p.props :=
  propsG_sound p.fields p.userProps (Tie.M2_auth p)

theorem Auth.variableHeaderG_sound (p : Auth) : Sound p.variableHeaderG p.body :=
  reasonProps_sound p.reasonCode p.propertiesG_sound

theorem Auth.fillG_sound (p : Auth) : Sound p.fillG p.encode := fillFrame_sound _ p.variableHeaderG_sound

/-- the variable header of SUBSCRIBE, SUBACK/UNSUBACK and UNSUBSCRIBE: packet identifier, then the property section
behind its length -/
theorem idProps_sound (id : UInt16) {f : Filler} {bs : Bytes} (h : Sound f bs) :
    Sound (Filler.seqs [fillU16 id, fillVb f.dry, f]) (encU16 id ++ encVb bs.length ++ bs) :=
  (Sound.seqs (.cons (fillU16_sound id) (.sized h .nil))).cast (by simp)

theorem SubAck.propertiesG_sound (p : SubAck) : Sound p.propertiesG p.props :=
  propsG_sound p.fields p.userProps p.props_fields

theorem SubAck.payloadG_sound (p : SubAck) : Sound p.payloadG p.reasonCodes :=
  (Sound.map p.reasonCodes fillByte (fun c => [c]) fillByte_sound).cast (List.flatMap_singleton' _)

theorem SubAck.fillG_sound (p : SubAck) : Sound p.fillG p.encode :=
  (fillFrame2_sound p.fixed (idProps_sound p.packetID p.propertiesG_sound) p.payloadG_sound).cast
    (by simp [SubAck.encode, SubAck.body])

theorem TopicFilter.fillG_sound (f : TopicFilter) : Sound f.fillG f.enc :=
  (Sound.seqs (.cons (fillBin_sound _) (.cons (fillByte_sound _) .nil))).cast (by simp [TopicFilter.enc])

theorem Subscribe.propertiesG_sound (p : Subscribe) : Sound p.propertiesG p.props := by
  unfold Subscribe.propertiesG Subscribe.props
  cases p.subscriptionID with
  | none => exact (Sound.seqs (.cons Sound.nop (.cons (fillUserProps_sound _) .nil))).cast (by simp)
  | some v => exact (Sound.seqs (.cons (fillProp_sound _ _) (.cons (fillUserProps_sound _) .nil))).cast (by simp)

theorem Subscribe.payloadG_sound (p : Subscribe) : Sound p.payloadG p.payload :=
  Sound.map p.filters _ _ TopicFilter.fillG_sound

theorem Subscribe.fillG_sound (p : Subscribe) : Sound p.fillG p.encode :=
  (fillFrame2_sound p.fixed (idProps_sound p.packetID p.propertiesG_sound) p.payloadG_sound).cast
    (by simp [Subscribe.encode, Subscribe.body])

theorem Unsubscribe.payloadG_sound (p : Unsubscribe) : Sound p.payloadG p.payload :=
  Sound.map p.filters _ _ fillBin_sound

theorem Unsubscribe.fillG_sound (p : Unsubscribe) : Sound p.fillG p.encode :=
  (fillFrame2_sound p.fixed (idProps_sound p.packetID (fillUserProps_sound p.userProps)) p.payloadG_sound).cast
    (by simp [Unsubscribe.encode, Unsubscribe.body, Unsubscribe.props])

theorem Publish.propertiesG_sound (p : Publish) : Sound p.propertiesG p.props :=
  (fillFields_sound (Tie.publishFields p) (.cons (fillUserProps_sound _)
    (.cons (Sound.map p.subscriptionIDs _ _ fun v => fillProp_sound 0x0b (.vb v.toNat)) .nil))).cast
    (by simp [Tie.M2_publish])

theorem Publish.variableHeaderG_sound (p : Publish) : Sound p.variableHeaderG p.varHeader :=
  (Sound.seqs (.cons (fillBin_sound _) (.cons (Sound.ite (fillU16_sound _) Sound.nop)
    (.sized p.propertiesG_sound .nil)))).cast (by simp [Publish.varHeader])

theorem Publish.fillG_sound (p : Publish) : Sound p.fillG p.encode := by
  unfold Publish.fillG
  simp only [Filler.dry_guard]
  exact fillFrame2_sound p.fixed p.variableHeaderG_sound (fillRaw_sound p.payload).skipEmpty

theorem ConnAck.propertiesG_sound (p : ConnAck) : Sound p.propertiesG p.props :=
  propsG_sound (Tie.connackFields p) p.userProps (Tie.M2_connack p)

theorem ConnAck.variableHeaderG_sound (p : ConnAck) : Sound p.variableHeaderG p.body :=
  (Sound.seqs (.cons (fillByte_sound _) (.cons (fillByte_sound _) (.sized p.propertiesG_sound .nil)))).cast
    (by simp [ConnAck.body])

theorem ConnAck.fillG_sound (p : ConnAck) : Sound p.fillG p.encode := fillFrame_sound _ p.variableHeaderG_sound

theorem Connect.propertiesG_sound (p : Connect) : Sound p.propertiesG p.props :=
  propsG_sound (Tie.connectFields p) p.userProps (Tie.M2_connect p)

theorem Connect.variableHeaderG_sound (p : Connect) : Sound p.variableHeaderG p.varHeader :=
  (Sound.seqs (.cons (fillBin_sound _) (.cons (fillByte_sound _) (.cons (fillByte_sound _)
    (.cons (fillU16_sound _) (.sized p.propertiesG_sound .nil)))))).cast (by simp [Connect.varHeader])

theorem Connect.willPropertiesG_sound (p : Connect) (w : Publish) : Sound (p.willPropertiesG w) (p.willProps w) :=
  propsG_sound (Tie.willFields p w) w.userProps (Tie.M2_will p w)

/-- a method that may panic on a nil will: both models panic together, and otherwise the filler is sound -/
def SoundOpt : Option Filler → Option Bytes → Prop
  | some f, some bs => Sound f bs
  | none, none => True
  | _, _ => False

theorem SoundOpt.map {f? : Option Filler} {bs? : Option Bytes} {F : Filler → Filler} {B : Bytes → Bytes}
    (h : SoundOpt f? bs?) (hF : ∀ f bs, Sound f bs → Sound (F f) (B bs)) : SoundOpt (f?.map F) (bs?.map B) :=
  match f?, bs?, h with
  | some f, some bs, h => hF f bs h
  | none, none, _ => trivial
  | some _, none, h => h.elim
  | none, some _, h => h.elim

theorem SoundOpt.spec {f? : Option Filler} {bs? : Option Bytes} (h : SoundOpt f? bs?) :
    (f? = none ↔ bs? = none) ∧ ∀ f, f? = some f → ∃ bs, bs? = some bs ∧ Sound f bs := by
  cases f? <;> cases bs? <;> simp only [SoundOpt] at h <;> simp [h]

theorem Connect.payloadG_sound (p : Connect) : SoundOpt p.payloadG? p.payload? := by
  unfold Connect.payloadG? Connect.payload?
  refine SoundOpt.map (?_ : SoundOpt _ _) fun wp bs h =>
    (Sound.seqs (.cons (fillBin_sound _) (.cons h (.cons (Sound.ite (fillBin_sound _) Sound.nop)
      (.cons (Sound.ite (fillBin_sound _) Sound.nop) .nil))))).cast (by simp)
  split
  · cases p.will with
    | none => trivial
    | some w =>
      exact (Sound.seqs (.sized (p.willPropertiesG_sound w) (.cons (fillBin_sound _) (.cons (fillBin_sound _) .nil)))).cast
        (by simp)
  · exact Sound.nop

theorem Connect.fillG_sound (p : Connect) :
    (p.fillG? = none ↔ p.encode? = none)
    ∧ ∀ f, p.fillG? = some f → ∃ bs, p.encode? = some bs ∧ Sound f bs := by
  unfold Connect.fillG? Connect.encode? Connect.body?
  rw [Option.map_map]
  exact (p.payloadG_sound.map fun pl bs h => fillFrame2_sound p.fixed p.variableHeaderG_sound h).spec

/-- the width CONNECT's `String()` prints, in terms of the encoding -/
theorem Connect.fillG_dry (p : Connect) : p.fillG?.map Filler.dry = p.encode?.map List.length := by
  obtain ⟨h1, h2⟩ := p.fillG_sound
  cases hf : p.fillG? with
  | none => rw [h1.mp hf]; rfl
  | some f =>
    obtain ⟨bs, hbs, hs⟩ := h2 f hf
    rw [hbs]; simp [hs.dry]

def Packet.FillG.Sound : Packet.FillG → Packet.Enc → Prop
  | .filler f, .bytes bs => Mq.Sound f bs
  | .refuse, .refuse => True
  | .panic, .panic => True
  | _, _ => False

theorem Packet.fillG_sound (p : Packet) : p.fillG.Sound p.encode := by
  cases p with
  | undefined q => trivial
  | connect q =>
    have h := q.fillG_sound
    simp only [Packet.fillG, Packet.encode]
    cases hf : q.fillG? with
    | none => rw [h.1.mp hf]; trivial
    | some f => obtain ⟨bs, hbs, hs⟩ := h.2 f hf; rw [hbs]; exact hs
  | connack q | publish q | puback q | pubrec q | pubrel q | pubcomp q | subscribe q | suback q | unsuback q
  | unsubscribe q | pingreq q | pingresp q | disconnect q | auth q => exact q.fillG_sound

/-- the Go-shaped two-pass encoder computes exactly `Packet.encode` — including which packets
refuse or panic — and `width()` is the length of that encoding -/
theorem Packet.two_pass (p : Packet) : p.encodeG = p.encode ∧ p.widthG = sizeOf? p.encode := by
  have h := p.fillG_sound
  unfold Packet.encodeG Packet.widthG
  generalize p.fillG = g, p.encode = e at h ⊢
  cases g <;> cases e <;> simp only [Packet.FillG.Sound] at h
  · exact ⟨congrArg _ (Mq.two_pass h).2.1, congrArg some h.dry⟩
  · exact ⟨rfl, rfl⟩
  · exact ⟨rfl, rfl⟩

theorem Packet.encodeG_eq (p : Packet) : p.encodeG = p.encode := p.two_pass.1

theorem Packet.widthG_eq (p : Packet) : p.widthG = sizeOf? p.encode := p.two_pass.2

end Mq
