import Proofs.FillPackets
import Proofs.Tie.Cred
/-!
# C18 — diagnostics never disclose credentials

Non-interference: `Dump` and `String` of a CONNECT are functions of everything in the packet except
the *bytes* of user name and password; of those only the lengths enter (whether they are empty, and
— through the frame size `String` prints — how long they are). Stated over arbitrary `Connect`
values, so API-built and wire-decoded packets, with or without will, properties and authentication
fields, and credentials that coincide with other field contents are all covered: the relation is
between two runs that differ in nothing but the credential bytes.
-/
namespace Mq

/-- the packet with its credentials replaced (fields only — flags and everything else kept) -/
def Connect.withCreds (p : Connect) (u pw : Bytes) : Connect := { p with username := u, password := pw }

/-- **Dump**: equal lengths ⇒ identical output -/
theorem C18_dump (p : Connect) (u₁ u₂ pw₁ pw₂ : Bytes) (hu : u₁.length = u₂.length) (hp : pw₁.length = pw₂.length) :
    (Packet.connect (p.withCreds u₁ pw₁)).dump = (Packet.connect (p.withCreds u₂ pw₂)).dump := by
  simp only [Packet.dump, Connect.dump, Connect.withCreds, hu, hp]

/-- the frame size is a function of the lengths only -/
theorem C18_size (p : Connect) (u₁ u₂ pw₁ pw₂ : Bytes) (hu : u₁.length = u₂.length) (hp : pw₁.length = pw₂.length) :
    (p.withCreds u₁ pw₁).encode?.map List.length = (p.withCreds u₂ pw₂).encode?.map List.length := by
  simp only [Connect.encode?, Connect.body?, Connect.payload?, Option.map_map]
  -- `congr 1` would also try to identify the two record updates by unfolding them, which is slow
  refine Option.map_congr fun wp _ => ?_
  have hc : ∀ (c : Bool) (a b : Bytes), a.length = b.length →
      (if c then encBin a else []).length = (if c then encBin b else []).length := fun c a b h => by
    cases c <;> simp only [encBin_length, h, if_true, Bool.false_eq_true, if_false]
  show (frame p.fixed (p.varHeader ++ (encBin p.clientID ++ wp ++ (if has p.flags 128 then encBin u₁ else [])
      ++ (if has p.flags 64 then encBin pw₁ else [])))).length
    = (frame p.fixed (p.varHeader ++ (encBin p.clientID ++ wp ++ (if has p.flags 128 then encBin u₂ else [])
      ++ (if has p.flags 64 then encBin pw₂ else [])))).length
  simp only [frame, List.length_cons, List.length_append, hc _ _ _ hu, hc _ _ _ hp]

/-- **String**: equal lengths ⇒ identical output -/
theorem C18_string (p : Connect) (u₁ u₂ pw₁ pw₂ : Bytes) (hu : u₁.length = u₂.length) (hp : pw₁.length = pw₂.length) :
    (Packet.connect (p.withCreds u₁ pw₁)).string = (Packet.connect (p.withCreds u₂ pw₂)).string := by
  have hs := C18_size p u₁ u₂ pw₁ pw₂ hu hp
  rw [← Connect.fillG_dry, ← Connect.fillG_dry] at hs
  simp only [Packet.string]
  cases h1 : (p.withCreds u₁ pw₁).fillG? <;> cases h2 : (p.withCreds u₂ pw₂).fillG? <;>
    simp only [h1, h2, Option.map_none, Option.map_some, reduceCtorEq, Option.some.injEq] at hs
  · rfl
  · simp only [Connect.withCreds, hs]

/-- wire-decoded: two CONNECT bodies that are decoded into packets differing only in the credential
bytes render identically — whatever else the frames carried -/
theorem C18_decoded (p₁ p₂ : Connect) (h : p₂ = p₁.withCreds p₂.username p₂.password)
    (hu : p₁.username.length = p₂.username.length) (hp : p₁.password.length = p₂.password.length) :
    (Packet.connect p₁).dump = (Packet.connect p₂).dump ∧ (Packet.connect p₁).string = (Packet.connect p₂).string := by
  -- `p₁` is `p₁.withCreds p₁.username p₁.password` by eta
  rw [h]
  exact ⟨C18_dump p₁ p₁.username _ p₁.password _ hu hp, C18_string p₁ p₁.username _ p₁.password _ hu hp⟩

/-- the same through the public setters (which also maintain the flag bits): packets built by
`SetUsername`/`SetPassword` with equally long values -/
theorem C18_setters (p : Connect) (u₁ u₂ pw₁ pw₂ : Bytes) (hu : u₁.length = u₂.length) (hp : pw₁.length = pw₂.length) :
    (Packet.connect ((p.setUsername u₁).setPassword pw₁)).dump = (Packet.connect ((p.setUsername u₂).setPassword pw₂)).dump
    ∧ (Packet.connect ((p.setUsername u₁).setPassword pw₁)).string = (Packet.connect ((p.setUsername u₂).setPassword pw₂)).string :=
  -- equally long values are empty together, so the two packets have the same flags
  C18_decoded _ _ (by simp [Connect.setUsername, Connect.setPassword, Connect.withCreds, hu, hp]) hu hp

/-- non-vacuity: a CONNECT with a will whose topic coincides with the secret; the two dumps are
equal and do show the will topic -/
example :
    let w : Publish := { Publish.new with topicName := [0x73, 0x33] }
    let p := ((Connect.new.setWill w).setUsername [0x75, 0x31]).setPassword [0x73, 0x33]
    (Packet.connect p).dump = (Packet.connect (p.withCreds [0x78, 0x78] [0x79, 0x79])).dump
    ∧ (Packet.connect p).dump ≠ .panic ∧ (Packet.connect p).string ≠ .panic :=
  -- `rfl` lets the kernel unfold the two dumps side by side; deciding the equation would compare them byte by byte
  ⟨rfl, by decide +kernel⟩

/-- **the source looks at the credentials only to measure them**: outside the setters, the accessors,
the encoder's `payload` and the decoder, every mention of `username`/`password`/`Username()`/
`Password()` in the package stands directly under `len(…)` (fact regenerated from /repo on every run) -/
theorem C18_credentials_only_measured : Facts.credentialUses.all (fun u => u.2.2) = true :=
  Tie.T6_credentials_only_measured

end Mq
