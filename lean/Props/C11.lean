import Proofs.FillPackets
import Proofs.Tie.ReadOnly
import Proofs.Tie.MapRanges
import Mq.Stream
/-!
# C11 — encoding is deterministic and read-only

Two things can make repeated encodings differ in Go: iteration over a map (each `range` is
independently randomised, and differently seeded in every process) and hidden writes by the
"read-only" operations. Everything else in the encoder is a function of the packet's fields — in
the model by construction, tied to the code by the correspondence run (repeated `ENC` in two
processes with `STR`/`DUMP`/`WF`/`VIEW` in between).

* map iteration is modelled as an **arbitrary permutation** of the map's entries;
  `C11_range_singleton` shows that a range over at most one entry does not depend on it, and
  `C11_map_ranges` (regenerated from the source on every run) that every `range` over a map on an
  encoding or rendering path of the current tree ranges over a literal with at most one entry;
* `C11_readonly` (regenerated): no read-only operation writes to the packet or to package state.
-/
namespace Mq

/-- a `for k, v := range m` over the entries `fs`, visited in the order `ord` the runtime picks -/
theorem C11_range_singleton (fs ord : List Filler) (h : fs.length ≤ 1) (hp : ord.Perm fs) :
    Filler.seqs ord = Filler.seqs fs := by
  match fs, h with
  | [], _ => rw [List.perm_nil.mp hp]
  | [f], _ => rw [List.perm_singleton.mp hp]

/-- SUBSCRIBE, SUBACK, UNSUBACK write their one map-held property the same way under every
iteration order -/
theorem C11_ranged_properties (p : SubAck) (s : Subscribe) (v : Nat) (hs : s.subscriptionID = some v)
    (ord₁ ord₂ : List Filler)
    (h₁ : ord₁.Perm [fillProp 0x1f (.bin p.reasonString)]) (h₂ : ord₂.Perm [fillProp 0x0b (.vb v)]) :
    Filler.seqs [Filler.seqs ord₁, fillUserProps p.userProps] = p.propertiesG
    ∧ Filler.seqs [Filler.seqs ord₂, fillUserProps s.userProps] = s.propertiesG := by
  rw [C11_range_singleton _ _ (by simp) h₁, C11_range_singleton _ _ (by simp) h₂]
  constructor
  · funext b i; simp [SubAck.propertiesG, Filler.seqs, Filler.seq, Filler.nop]
  · funext b i; simp [Subscribe.propertiesG, hs, Filler.seqs, Filler.seq, Filler.nop]

/-- why the bound matters: two entries written in the two possible orders give different bytes
(the defect this property was written for: CONNECT will properties ranged over a six-entry map) -/
theorem C11_two_entries_differ :
    let a := fillProp 0x01 (.bool true)
    let b := fillProp 0x02 (.u32 7)
    (Filler.seqs [a, b] (List.replicate 7 0) 0).1 ≠ (Filler.seqs [b, a] (List.replicate 7 0) 0).1 := by
  decide

/-- **source fact, regenerated on every run**: every `range` over a map in a function reachable
from a read-only operation ranges over a map literal with at most one entry; the maps are the
ones the model knows (`Tie.T1_*`) -/
theorem C11_map_ranges : Facts.mapRanges.all (fun m => !m.encoderPath || (0 ≤ m.size && m.size ≤ 1)) = true :=
  Tie.T5_map_ranges

/-- **source fact, regenerated on every run**: `WriteTo`, `String`, `Dump`, `WellFormed` and every
accessor write nothing but memory they allocate and the caller's `io.Writer` -/
theorem C11_readonly : Facts.readOnlyWrites = [] := Tie.T5_read_only

/-- the read-only operations of the API -/
inductive ReadOp | writeTo | string | dump | wellFormed | view
deriving Repr, DecidableEq

/-- what a read-only operation returns; none of them returns (or can change) the packet -/
inductive Out
  | enc (e : Packet.Enc) | text (r : Rend) | wf (w : Option WF) | view (v : View)
deriving DecidableEq

def ReadOp.run (p : Packet) : ReadOp → Out
  | .writeTo => .enc p.encodeG
  | .string => .text p.string
  | .dump => .text p.dump
  | .wellFormed => .wf p.wellFormed
  | .view => .view p.view

/-- **any interleaving of read-only operations**: every `WriteTo` in it produces the same bytes —
those of `Packet.encode` — and every accessor snapshot is the same, wherever it occurs -/
theorem C11_repeatable (p : Packet) (ops : List ReadOp) :
    ∀ o ∈ ops.map (ReadOp.run p),
      (∀ e, o = .enc e → e = p.encode) ∧ (∀ v, o = .view v → v = p.view) := by
  intro o ho
  simp only [List.mem_map] at ho
  obtain ⟨op, _, rfl⟩ := ho
  cases op <;> simp [ReadOp.run, Packet.encodeG_eq]

/-- non-vacuity: a CONNECT with all six will properties (720 orders before the repair) has one encoding -/
example :
    let w : Publish := { topicName := [0x74], payloadFormat := true, messageExpiryInterval := 9,
                         contentType := [0x63], responseTopic := [0x72], correlationData := [0x64] }
    let c : Connect := Connect.new.setWill w
    let p := Packet.connect { c with willDelayInterval := 5 }
    (ReadOp.run p .writeTo) = .enc p.encode ∧ sizeOf? p.encode = some 45 :=
  ⟨congrArg Out.enc (Packet.encodeG_eq _), by decide +kernel⟩

end Mq
