import Proofs.RejectConnect
import Proofs.FrameRead
/-!
# C09 — frames the decoder must reject are rejected

(a) `C09a_cut_inside_field`: for **every** legal abstract packet (all 15 types, any property list)
and **every** position strictly inside a field of its field map (`Spec.SPacket.fieldLens`: two-byte
integers, strings and binary data with their length prefix, each property section — its length,
every identifier/value boundary, every value —, will fields, filters; the raw PUBLISH payload
exempt), the frame cut there, with the remaining length equal to the shortened size, is rejected
by `ReadPacket`: an error and no packet, under every reader schedule.
(b) `C09b_remaining_length`: a remaining length that continues beyond four bytes is rejected;
`C09b_in_memory`: so is every variable byte integer read from a frame body (property length,
subscription identifier) — the decoder `decVb` the model's `get` uses for them.
(c)/(d) `C09c_bool_ids`, `C09d_unknown_id`, `C09_malformed_property`: in the property loop, after any run of well-formed
properties, a boolean property with a value other than 0/1 and an identifier not in the packet's
table (in particular none of the 229 identifiers MQTT leaves undefined) set the error status,
which no later step clears (`C09_sticky`).
-/
namespace Mq
open Spec (SPacket StrictlyInside)

/-- (a) on the level of one frame's bytes -/
theorem C09a_frame (sp : SPacket) (hl : sp.Legal) (k : Nat) (hk : StrictlyInside sp.fieldLens k) :
    ∃ e, frameOutcome sp.firstByte (sp.body.take k) = .err e := by
  cases sp with
  | connect cs ka ps cid will user pass => exact C09a_connect cs ka ps cid will user pass hl k hk
  | connack s r ps => exact C09a_connack s r ps hl k hk
  | publish d q r t pid ps pl => exact C09a_publish d q r t pid ps pl hl k hk
  | ack kk pid f r ps => exact C09a_ack kk pid f r ps hl k hk
  | subscribe pid ps fs => exact C09a_subscribe pid ps fs hl k hk
  | suback kk pid ps cs => exact C09a_suback kk pid ps cs hl k hk
  | unsubscribe pid ps fs => exact C09a_unsubscribe pid ps fs hl k hk
  | ping kk => simp only [SPacket.fieldLens] at hk; exact absurd hk (strictlyInside_nil _)
  | disconnect f r ps => exact C09a_disconnect f r ps hl k hk
  | auth f r ps => exact C09a_auth f r ps hl k hk

/-- **(a)** a legal frame cut strictly inside a field, its remaining length set to the shortened
size, delivered by any reader under any schedule and followed by anything: `ReadPacket` returns an
error and no packet -/
theorem C09a_cut_inside_field (sp : SPacket) (hl : sp.Legal) (k : Nat) (hk : StrictlyInside sp.fieldLens k)
    (r : Reader) (rest : Bytes) (hd : r.data = Spec.mkFrame sp.firstByte (sp.body.take k) ++ rest) :
    ∃ e, (readPacket r).1 = .err e := by
  obtain ⟨e, he⟩ := C09a_frame sp hl k hk
  have hlen : (sp.body.take k).length < 268435456 := by
    have := hl.2; simp only [List.length_take]; omega
  exact ⟨e, ((readPacket_frame r _ _ rest hlen hd).1).trans he⟩

/-- **(b)** a remaining length whose fourth byte still carries the continuation bit -/
theorem C09b_remaining_length (b0 b1 b2 b3 b4 b5 : UInt8) (rest : Bytes) (r : Reader)
    (hd : r.data = b0 :: b1 :: b2 :: b3 :: b4 :: b5 :: rest)
    (h1 : 128 ≤ b1.toNat) (h2 : 128 ≤ b2.toNat) (h3 : 128 ≤ b3.toNat) (h4 : 128 ≤ b4.toNat) :
    ∃ e, (readPacket r).1 = .err e := by
  obtain ⟨e, he⟩ := pureVb_long b1 b2 b3 b4 b5 rest r.fail h1 h2 h3 h4
  rw [readPacket_fst, hd, purePacket_cons]
  rcases h : pureVb 5 (b1 :: b2 :: b3 :: b4 :: b5 :: rest) r.fail 1 0 with ⟨⟨on, oe⟩, d2⟩
  rw [h] at he; cases he
  exact ⟨e, rfl⟩

/-- **(b)** inside a frame body: the decoder used for property lengths and subscription
identifiers rejects a fifth byte, and a `get` with it leaves the error status -/
theorem C09b_in_memory (b1 b2 b3 b4 b5 : UInt8) (rest : Bytes)
    (h1 : 128 ≤ b1.toNat) (h2 : 128 ≤ b2.toNat) (h3 : 128 ≤ b3.toNat) (h4 : 128 ≤ b4.toNat) (old : Nat) :
    (({ rest := b1 :: b2 :: b3 :: b4 :: b5 :: rest, st := .ok } : Buf).get decVb old).1.Failed := by
  rw [get_err_val decVb old _ .sizeExceeded (by simp) (decVb_long b1 b2 b3 b4 b5 rest h1 h2 h3 h4)]
  exact ⟨_, rfl⟩

/-! ### (b), (c), (d) at property positions

`BadProp tbl bad` (Proofs.RejectProps) says the bytes `bad` start a property the decoder must not
accept: an identifier unknown to the packet's table (d), a boolean property with a value other than
0/1 (c), or a variable-byte-integer property running to a fifth byte (b). `badSection L pre bad suf`
is a property section that declares length `L`, starts with any well-formed properties `pre`, then
`bad`, then anything. The theorems below: a frame of each packet type whose property section is such
a section is rejected — whatever the other field values. -/

/-- **(d)** none of the 229 identifiers MQTT v5.0 leaves undefined is known to any decoder table, nor
handled inline: each of them is a `BadProp.unknownId` in every packet -/
theorem C09d_undefined_ids : ∀ n : Fin 256, Spec.propDef? (UInt8.ofNat n.val) = none →
    (UInt8.ofNat n.val ≠ 0x26 ∧ UInt8.ofNat n.val ≠ 0x0b) ∧ ∀ tbl ∈ allTables, tbl.lookup (UInt8.ofNat n.val) = none :=
  fun _ => undefined_id _

theorem C09d_unknown_id (id : UInt8) (h : Spec.propDef? id = none) (tbl : PropTable) (ht : tbl ∈ allTables) (rest : Bytes) :
    BadProp tbl (id :: rest) :=
  have ⟨⟨h1, h2⟩, h3⟩ := undefined_id id h
  .unknownId id rest (h3 tbl ht) h1 h2

/-- **(c)** every boolean property of MQTT v5.0 is decoded as a boolean by the table of each packet
that may carry it, so a value byte other than 0/1 is a `BadProp.badBool` there -/
theorem C09c_bool_ids : ∀ d ∈ Spec.propDefs, d.ty = .bool →
    (d.allowed.contains 1 → Connect.table.lookup d.id = some .bool)
    ∧ (d.allowed.contains 2 → ConnAck.table.lookup d.id = some .bool)
    ∧ (d.allowed.contains 3 → Publish.table.lookup d.id = some .bool)
    ∧ (d.allowed.contains Spec.willK → Connect.willTable.lookup d.id = some .bool) := by
  decide

/-- **(b)** the subscription identifier — the only variable-byte-integer property — is decoded as one
in PUBLISH (inline) and SUBSCRIBE (table) -/
theorem C09b_vb_ids : Publish.table.lookup 0x0b = none ∧ Subscribe.table.lookup 0x0b = some .vb := by decide

/-- **(b), (c), (d) in a property section**, for every packet type that has one: whatever the fixed
fields, whatever well-formed (legal) properties `pre` precede it and whatever follows, a frame whose
property section reaches a malformed property is rejected -/
theorem C09_malformed_property (L : Nat) (pre : List PropOcc) (bad suf : Bytes) (hL : L < 268435456)
    (hreach : (pre.flatMap encOcc).length < L) :
    (∀ fl ka, Spec.propsLegal 1 pre = true → BadProp Connect.table bad →
      ∃ e, frameOutcome 0x10 (encBin Connect.mqtt5 ++ (5 :: fl :: (encU16 ka ++ badSection L pre bad suf))) = .err e)
    ∧ (∀ fl rc, Spec.propsLegal 2 pre = true → BadProp ConnAck.table bad →
      ∃ e, frameOutcome 0x20 (fl :: rc :: badSection L pre bad suf) = .err e)
    ∧ (∀ dup retain qos topic pid, qos ≤ 2 → topic.length < 65536 → Spec.propsLegal 3 pre = true → BadProp Publish.table bad →
      ∃ e, frameOutcome (Spec.SPacket.publish dup qos retain topic pid [] []).firstByte
        (encBin topic ++ ((if qos = 0 then [] else encU16 pid) ++ badSection L pre bad suf)) = .err e)
    ∧ (∀ b0 k pid rc, ((b0 = 0x40 ∧ k = 4) ∨ (b0 = 0x50 ∧ k = 5) ∨ (b0 = 0x62 ∧ k = 6) ∨ (b0 = 0x70 ∧ k = 7)) →
      Spec.propsLegal k pre = true → BadProp Ack.table bad →
      ∃ e, frameOutcome b0 (encU16 pid ++ (rc :: badSection L pre bad suf)) = .err e)
    ∧ (∀ pid, Spec.propsLegal 8 pre = true → BadProp Subscribe.table bad →
      ∃ e, frameOutcome 0x82 (encU16 pid ++ badSection L pre bad suf) = .err e)
    ∧ (∀ b0 k pid, ((b0 = 0x90 ∧ k = 9) ∨ (b0 = 0xb0 ∧ k = 11)) → Spec.propsLegal k pre = true → BadProp SubAck.table bad →
      ∃ e, frameOutcome b0 (encU16 pid ++ badSection L pre bad suf) = .err e)
    ∧ (∀ pid, Spec.propsLegal 10 pre = true → BadProp ([] : PropTable) bad →
      ∃ e, frameOutcome 0xa2 (encU16 pid ++ badSection L pre bad suf) = .err e)
    ∧ (∀ rc, Spec.propsLegal 14 pre = true → BadProp Disconnect.table bad →
      ∃ e, frameOutcome 0xe0 (rc :: badSection L pre bad suf) = .err e)
    ∧ (∀ rc, Spec.propsLegal 15 pre = true → BadProp Auth.table bad →
      ∃ e, frameOutcome 0xf0 (rc :: badSection L pre bad suf) = .err e) :=
  ⟨fun fl ka hl hb => bad_connect fl ka L pre bad suf hl hL hreach hb,
   fun fl rc hl hb => bad_connack fl rc L pre bad suf hl hL hreach hb,
   fun dup retain qos topic pid hq ht hl hb => bad_publish dup retain qos hq topic ht pid L pre bad suf hl hL hreach hb,
   fun b0 k pid rc hk hl hb => bad_ack b0 k hk pid rc L pre bad suf hl hL hreach hb,
   fun pid hl hb => bad_subscribe pid L pre bad suf hl hL hreach hb,
   fun b0 k pid hk hl hb => bad_suback b0 k hk pid L pre bad suf hl hL hreach hb,
   fun pid hl hb => bad_unsubscribe pid L pre bad suf hl hL hreach hb,
   fun rc hl hb => bad_disconnect rc L pre bad suf hl hL hreach hb,
   fun rc hl hb => bad_auth rc L pre bad suf hl hL hreach hb⟩

/-- … and in the will properties of a CONNECT (will flag set), after any legal CONNECT properties and
client identifier -/
theorem C09_malformed_will_property (fl : UInt8) (hfl : has fl Connect.fWillFlag = true) (ka : UInt16) (ps : List PropOcc)
    (hps : Spec.propsLegal 1 ps = true) (hsl : (ps.flatMap encOcc).length < 268435456) (cid : Bytes) (hcid : cid.length < 65536)
    (L : Nat) (pre : List PropOcc) (bad suf : Bytes) (hl : Spec.propsLegal Spec.willK pre = true)
    (hL : L < 268435456) (hreach : (pre.flatMap encOcc).length < L) (hbad : BadProp Connect.willTable bad) :
    ∃ e, frameOutcome 0x10 (encBin Connect.mqtt5 ++ (5 :: fl :: (encU16 ka ++ (Spec.propSection ps ++ (encBin cid
      ++ badSection L pre bad suf))))) = .err e :=
  bad_connect_will fl hfl ka ps hps hsl cid hcid L pre bad suf hl hL hreach hbad

/-- once the error status is set, every later step of every decoder keeps it -/
theorem C09_sticky (b : Buf) (h : b.Failed) :
    (∀ {α} (dec : Dec α) (old : α), (b.get dec old).1.Failed)
    ∧ (∀ tbl oldOf, (b.getAny tbl oldOf).1.Failed)
    ∧ (∀ fuel acc, 0 < fuel → (Subscribe.filterLoop fuel b acc).1.Failed)
    ∧ (∀ fuel acc, 0 < fuel → (Unsubscribe.filterLoop fuel b acc).1.Failed) :=
  ⟨fun dec old => get_failed b dec old h, fun tbl oldOf => getAny_failed b tbl oldOf h,
   fun fuel acc hf => Subscribe.filterLoop_failed fuel b acc h hf,
   fun fuel acc hf => Unsubscribe.filterLoop_failed fuel b acc h hf⟩

/-- non-vacuity of (c): a CONNACK whose Retain Available (0x25) property carries the value 2, after a
well-formed Receive Maximum property, `20 08 00 00 05 21 00 0a 25 02`, is rejected -/
example : ∃ e, frameOutcome 0x20 [0x00, 0x00, 0x05, 0x21, 0x00, 0x0a, 0x25, 0x02] = .err e := by
  have := bad_connack 0 0 5 [⟨0x21, .u16 10⟩] [0x25, 0x02] [] (by decide) (by decide) (by decide)
    (.badBool 0x25 2 [] (by decide) (by decide) (by decide))
  simpa [badSection, encOcc, encV, encU16, encVb, encVbAux] using this

/-- non-vacuity of (a): the PUBACK `40 04 00 07 10 00` cut inside its packet identifier, `40 01 00`, is rejected
(the frame that used to panic) -/
example : ∃ e, frameOutcome 0x40 [0x00] = .err e := by
  have := C09a_frame (.ack 4 7 .full 0x10 []) (by constructor <;> decide) 1
    ⟨[], (2, true), _, rfl, rfl, by decide, by decide⟩
  simpa [SPacket.firstByte, SPacket.body, encU16] using this

end Mq
