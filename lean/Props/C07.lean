import Proofs.FrameRead
/-!
# C07 — the decoded packet does not depend on how the stream is fragmented

`Reader` (Mq.Stream) enumerates the deliveries the `io.Reader` contract allows: any chunk sizes
down to one byte, `(0, nil)` reads anywhere, the last bytes with or without the error.
-/
namespace Mq

/-- two readers that deliver the same bytes and end the same way — under **any** two delivery
schedules — make ReadPacket return the same packet or the same rejection, and leave the same
bytes in the stream -/
theorem C07_schedule_irrelevant (r₁ r₂ : Reader) (hd : r₁.data = r₂.data) (hf : r₁.fail = r₂.fail) :
    (readPacket r₁).1 = (readPacket r₂).1 ∧ (readPacket r₁).2.data = (readPacket r₂).2.data :=
  ⟨by rw [readPacket_fst, readPacket_fst, hd, hf], by rw [readPacket_data, readPacket_data, hd, hf]⟩

/-- in particular: same result as when all bytes arrive in one read -/
theorem C07_as_contiguous (r : Reader) :
    (readPacket r).1 = (readPacket { data := r.data, fail := r.fail }).1 :=
  (C07_schedule_irrelevant r { data := r.data, fail := r.fail } rfl rfl).1

/-- the underlying fact about `io.ReadFull`: the bytes it returns, its error and the bytes it
leaves behind do not depend on the schedule -/
theorem C07_readFull (r₁ r₂ : Reader) (want : Nat) (hd : r₁.data = r₂.data) (hf : r₁.fail = r₂.fail) :
    (readFull r₁ want).1 = (readFull r₂ want).1 ∧ (readFull r₁ want).2.1 = (readFull r₂ want).2.1
      ∧ (readFull r₁ want).2.2.data = (readFull r₂ want).2.2.data := by
  have h1 := (readFull_pure r₁ want).1
  have h2 := (readFull_pure r₂ want).1
  rw [hd, hf] at h1
  have := h1.trans h2.symm
  simp only [Prod.mk.injEq] at this
  exact this

/-- **a whole session**: any number of consecutive `ReadPacket` calls on two readers that deliver the
same bytes and end the same way return the same sequence of packets and rejections and leave the
same bytes — whatever the two delivery schedules are, valid frames or not, including what is read
after a rejected frame. By induction on the number of calls: each call preserves "same remaining
bytes, same end". -/
theorem C07_session : ∀ (n : Nat) (r₁ r₂ : Reader), r₁.data = r₂.data → r₁.fail = r₂.fail →
    (readAll n r₁).1 = (readAll n r₂).1 ∧ (readAll n r₁).2.data = (readAll n r₂).2.data := by
  intro n
  induction n with
  | zero => intro r₁ r₂ hd _; exact ⟨rfl, hd⟩
  | succ n ih =>
    intro r₁ r₂ hd hf
    have h := C07_schedule_irrelevant r₁ r₂ hd hf
    have hf' : (readPacket r₁).2.fail = (readPacket r₂).2.fail := by
      rw [readPacket_fail, readPacket_fail, hf]
    have h2 := ih (readPacket r₁).2 (readPacket r₂).2 h.2 hf'
    simp only [readAll]
    exact ⟨by rw [h.1, h2.1], h2.2⟩

/-- non-vacuity: PINGREQ, a malformed CONNACK and a PUBACK read one byte at a time with zero-length
reads in between give what the contiguous stream gives -/
example :
    let d : Bytes := [0xc0, 0x00, 0x20, 0x05, 0x00, 0x00, 0x02, 0x7f, 0x00, 0x40, 0x02, 0x00, 0x01, 0xaa]
    (readAll 3 { data := d, sched := [1, 0, 1, 1, 0, 0, 1, 1, 1, 1, 1, 1, 1, 1, 1, 1, 1, 1] }).1
      = (readAll 3 (Reader.contig d)).1 := by decide

/-- non-vacuity: a PUBLISH delivered one byte at a time with zero-length reads in between and
the last byte together with io.EOF decodes like the contiguous frame -/
example :
    (readPacket { data := [0x30, 0x05, 0x00, 0x01, 0x61, 0x00, 0x62], sched := [1, 0, 1, 1, 0, 1, 1, 1, 1],
                  eofWithData := true }).1
      = (readPacket (Reader.contig [0x30, 0x05, 0x00, 0x01, 0x61, 0x00, 0x62])).1 := by decide

end Mq
