import Proofs.RenderTotal
import Proofs.Tie.Render
/-!
# C19 — String and Dump are total on every packet value

`Packet.string` / `Packet.dump` (Mq.Render) are the Go renderers with every partial Go operation
as an explicit `.panic`: the nil-will dereference behind CONNECT's size computation, and the
`name[idx[i]:idx[i+1]]` slicing of the stringer tables of `ReasonCode.String`. There is no loop
whose exit depends on data, so "never blocks" is the absence of a `hang` outcome by construction.
`Proofs.Tie.Render` is imported for what it checks — the stringer tables in the source are the model's (`T4_*`) —, not for
a lemma.
-/
namespace Mq

/-! `Packet.RenderInv` (Proofs.RenderInv) is the only state a renderer depends on for not panicking:
a CONNECT with the will flag set has a will attached (`Connect.WillInv`); no condition on any other type. -/

/-- `ReasonCode(b).String()` is defined for all 256 byte values (complete kernel-checked
enumeration in `reasonCode_table`: the stringer's table slicing never leaves its arrays) -/
theorem C19_reason_code (c : UInt8) : ∃ text, reasonCodeStr c = .ok text := reasonCode_defined c

/-- header flags, CONNECT flags, CONNACK flags and subscription options: the renderers are total
functions of the byte, of fixed shape (type name + 4 flag characters; 8 flag characters) -/
theorem C19_flag_renderers (b : UInt8) (f : Bytes) :
    (firstByteStr b).length = (typeName b).length + 5 ∧ (connectFlagsStr b).length = 8
    ∧ (connAckFlagsStr b).length = 8 ∧ (topicFilterStr ⟨f, b⟩).length = f.length + 9 := by
  simp [firstByteStr, connectFlagsStr, connAckFlagsStr, topicFilterStr]

/-- **String() never panics** on a packet that satisfies the invariant -/
theorem C19_string_total (p : Packet) (h : p.RenderInv) : p.string ≠ .panic := by
  cases p with
  | connect q =>
    simp only [Packet.string]
    cases hg : q.fillG? with
    | some e => exact Rend.noConfusion
    | none => exact absurd hg (q.fillG?_ne_none h)
  | pubrec q | pubcomp q => exact bind_ne_panic (reasonCodeStr_ne_panic _) fun _ => Rend.noConfusion
  | connack q | puback q | pubrel q | disconnect q => simp only [Packet.string]; exact withReason_ne_panic _ _ _
  | _ => exact Rend.noConfusion

/-- **Dump never panics**, on any packet value at all (a nil will is skipped, an empty filter list
prints nothing, `Undefined` and the pings have no `dump` method) -/
theorem C19_dump_total (p : Packet) : p.dump ≠ .panic := by
  cases p with
  | connect q => exact q.dump_ne_panic
  | publish q => exact q.dump_ne_panic
  | pingreq _ | pingresp _ | undefined _ => exact Rend.noConfusion
  | _ =>
    -- the other `dump`s are a `Rend.concat` of lines, each of a kind that cannot panic
    refine concat_ne_panic _ ?_
    simp only [List.forall_mem_cons, List.not_mem_nil, false_imp_iff, implies_true, and_true, ne_eq, reduceCtorEq,
      not_false_eq_true, lineQ_ne_panic, reasonLine_ne_panic, dumpUserProps_ne_panic]

/-! ## every packet value a program can hold satisfies the invariant -/

/-- zero values of the exported types and the constructors -/
theorem C19_inv_zero_new (k : Nat) : (Packet.zero k).RenderInv ∧ (Packet.new k).RenderInv := by
  constructor
  · unfold Packet.zero; split <;> simp [Packet.RenderInv, Connect.WillInv, has, Connect.fWillFlag]
  · unfold Packet.new; split <;> simp [Packet.RenderInv, Connect.WillInv, has, Connect.fWillFlag, Connect.new]

/-- packets under construction: every public setter preserves it -/
theorem C19_inv_setter (p q : Packet) (op : SetOp) (h : p.apply op = some q) (hi : p.RenderInv) : q.RenderInv := by
  cases p with
  | connect x => obtain ⟨y, hy, rfl⟩ := Option.map_eq_some_iff.mp h; exact Connect.apply_will_inv x y op hy hi
  | pingreq _ | pingresp _ | undefined _ => cases h
  | _ => obtain ⟨y, -, rfl⟩ := Option.map_eq_some_iff.mp h; trivial

/-- decoded packets, including failed and malformed-but-accepted decodes: `UnmarshalBinary` on any
bytes, whatever its outcome, leaves the invariant in place (the will is allocated as soon as the
flag byte says so, before anything else is read) -/
theorem C19_inv_decode (p : Packet) (d : Bytes) : (p.unmarshal d).1.RenderInv :=
  Packet.unmarshal_renderInv p d

/-- the packet values a program can hold: zero value or constructor, then any interleaving of setter calls and
decodes of arbitrary bytes; or returned by `ReadPacket` -/
inductive Reachable : Packet → Prop
  | zero (k : Nat) : Reachable (Packet.zero k)
  | new (k : Nat) : Reachable (Packet.new k)
  | set (p q : Packet) (op : SetOp) : Reachable p → p.apply op = some q → Reachable q
  | decode (p : Packet) (d : Bytes) : Reachable p → Reachable (p.unmarshal d).1
  | read (r : Reader) (q : Packet) : (readPacket r).1 = .pkt q → Reachable q

/-- **C19** for every reachable packet value -/
theorem C19_total (p : Packet) (h : Reachable p) : p.string ≠ .panic ∧ p.dump ≠ .panic := by
  refine ⟨C19_string_total p ?_, C19_dump_total p⟩
  induction h with
  | zero k => exact (C19_inv_zero_new k).1
  | new k => exact (C19_inv_zero_new k).2
  | set p q op _ ha ih => exact C19_inv_setter p q op ha ih
  | decode p d _ _ => exact C19_inv_decode p d
  | read r q hq => exact readPacket_renderInv r q hq

/-- non-vacuity: a CONNECT decoded from bytes that set the will flag and then run out — accepted
packets aside, even this half-decoded value renders -/
example : ((Packet.zero 1).unmarshal [0, 4, 0x4d, 0x51, 0x54, 0x54, 5, 0x04]).1.string ≠ .panic :=
  (C19_total _ (.decode _ _ (.zero 1))).1

end Mq
