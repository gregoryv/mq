import Props.Domain
import Proofs.Reach
import Proofs.DConnectL
/-!
# Props.Reach — from "built with the public constructors and setters" to the domain predicates

C01, C02, C10 and C12 quantify over packets *built through the API with values inside MQTT's
limits*; their theorems are stated over the value predicates `Packet.InDomainL` / `Packet.InDomain`.
Here the two are connected: a packet obtained from `New<Type>()` by any sequence of setter/adder
calls whose arguments are within the limits (`SetOp.OK`) satisfies the invariant `Packet.Reach`
(Proofs/Reach.lean), and `Reach` together with `Packet.Final` — the conditions on the packet as
finally written that no single call can guarantee — is the domain.

`Final` says: the frame fits MQTT's remaining-length limit; SUBSCRIBE/UNSUBSCRIBE carry at least
one filter (an empty one is not a packet the decoder may accept, C09); a PUBLISH with QoS 0 has no
packet identifier to transmit and a CONNECT without a will has no will delay to transmit, so those
two fields are still 0. `FinalValid` adds what makes the packet *valid MQTT* (C02's domain).
-/
namespace Mq

def Packet.Final : Packet → Prop
  | .undefined _ => False
  | .connect p => (p.will = none → p.willDelayInterval = 0) ∧ ∀ b, p.body? = some b → b.length < 268435456
  | .connack p => p.body.length < 268435456
  | .publish p => (p.qos = 0 → p.packetID = 0) ∧ p.body.length < 268435456
  | .puback p | .pubrec p | .pubrel p | .pubcomp p => p.body.length < 268435456
  | .subscribe p => p.filters ≠ [] ∧ p.body.length < 268435456
  | .suback p | .unsuback p => p.body.length < 268435456
  | .unsubscribe p => p.filters ≠ [] ∧ p.body.length < 268435456
  | .pingreq _ | .pingresp _ => True
  | .disconnect p => p.body.length < 268435456
  | .auth p => p.body.length < 268435456

/-- additionally valid MQTT: protocol `MQTT` 5, legal subscription options, at least one reason code -/
def Packet.FinalValid : Packet → Prop
  | .connect p => p.protocolName = Connect.mqtt5 ∧ p.protocolVersion = 5
  | .subscribe p => ∀ f ∈ p.filters, f.options &&& 0xc0 = 0 ∧ f.options &&& 3 ≠ 3 ∧ f.options &&& 0x30 ≠ 0x30
  | .suback p | .unsuback p => p.reasonCodes ≠ []
  | _ => True

theorem Packet.inDomainL_of_reach (p : Packet) (hr : p.Reach) (hf : p.Final) : p.InDomainL := by
  cases p with
  | undefined q => exact hf.elim
  | connect q =>
    -- the twin differs from the packet in name and version only, so the API's invariant holds of it as of the packet
    have ht : (q.setNV Connect.mqtt5 5).Reach :=
      { hr with inv := hr.inv.of_eq rfl rfl rfl rfl, protocolName := Connect.new_reach.protocolName }
    exact ⟨hr.protocolName, Connect.inDomainW_iff.mpr ⟨ht, ⟨rfl, rfl⟩, hf.1, Connect.twin_bound q hf.2⟩, hf.2⟩
  | connack q =>
    exact ⟨hr.fixed, hr.flags, hr.assignedClientID, hr.reasonString, hr.responseInformation, hr.serverReference, hr.authMethod,
      hr.authData, hr.ups, hf⟩
  | publish q =>
    exact ⟨hr.type, hr.qos, hf.1, hr.topicName, hr.responseTopic, hr.correlationData, hr.contentType, hr.ups, hr.subIDs, hf.2⟩
  | puback q | pubrec q | pubrel q | pubcomp q => exact ⟨⟨by decide, by decide⟩, hr.fixed, hr.reason, hr.ups, hf⟩
  | subscribe q => exact ⟨hr.fixed, hr.subID, hr.ups, hf.1, hr.filters, hf.2⟩
  | suback q => exact ⟨Or.inl rfl, hr.fixed, hr.reasonString, hr.ups, hf⟩
  | unsuback q => exact ⟨Or.inr rfl, hr.fixed, hr.reasonString, hr.ups, hf⟩
  | unsubscribe q => exact ⟨hr.fixed, hr.ups, hf.1, hr.filters, hf.2⟩
  | pingreq q => exact ⟨Or.inl rfl, hr⟩
  | pingresp q => exact ⟨Or.inr rfl, hr⟩
  | disconnect q => exact ⟨hr.fixed, hr.reasonString, hr.serverReference, hr.ups, hf⟩
  | auth q => exact ⟨hr.fixed, hr.reasonString, hr.authMethod, hr.authData, hr.ups, hf⟩

theorem Packet.inDomain_of_reach (p : Packet) (hr : p.Reach) (hf : p.Final) (hv : p.FinalValid) : p.InDomain := by
  -- for the types `FinalValid` asks nothing of, the two domains are one
  have hl := p.inDomainL_of_reach hr hf
  cases p with
  | connect q => exact Connect.inDomainW_iff.mpr ⟨hr, hv, hf⟩
  | subscribe q => exact ⟨hr.fixed, hr.subID, hr.ups, hf.1, fun x hx => ⟨hr.filters x hx, hv x hx⟩, hf.2⟩
  | suback q => exact ⟨Or.inl rfl, hr.fixed, hr.reasonString, hr.ups, hv, hf⟩
  | unsuback q => exact ⟨Or.inr rfl, hr.fixed, hr.reasonString, hr.ups, hv, hf⟩
  | _ => exact hl

theorem Packet.new_undefined (k : Nat) (h : ¬ (1 ≤ k ∧ k ≤ 15)) : Packet.new k = .undefined {} := by
  unfold Packet.new
  split <;> first | rfl | exact absurd ⟨by decide, by decide⟩ h

/-- `hf` serves only to rule out `Undefined`, which has no constructor -/
theorem Packet.api_reach (k : Nat) (ops : List SetOp) (p : Packet) (h : (Packet.new k).applyAll ops = some p)
    (hok : ∀ op ∈ ops, op.OK) (hf : p.Final) : p.Reach := by
  by_cases hk : 1 ≤ k ∧ k ≤ 15
  · exact Packet.applyAll_reach ops _ p h hok (Packet.new_reach k hk.1 hk.2)
  · rw [Packet.new_undefined k hk] at h
    cases ops with
    | nil => cases h; exact hf.elim
    | cons op ops => cases h

theorem Packet.api_inDomainL (k : Nat) (ops : List SetOp) (p : Packet) (h : (Packet.new k).applyAll ops = some p)
    (hok : ∀ op ∈ ops, op.OK) (hf : p.Final) : p.InDomainL :=
  p.inDomainL_of_reach (Packet.api_reach k ops p h hok hf) hf

theorem Packet.api_inDomain (k : Nat) (ops : List SetOp) (p : Packet) (h : (Packet.new k).applyAll ops = some p)
    (hok : ∀ op ∈ ops, op.OK) (hf : p.Final) (hv : p.FinalValid) : p.InDomain :=
  p.inDomain_of_reach (Packet.api_reach k ops p h hok hf) hf hv

/-- non-vacuity of the hypotheses of `Packet.api_inDomainL` (`C01_api`, `C02_api`): a CONNECT with a will, credentials
and a user property, built call by call from in-limit arguments, and final -/
def exampleOps : List SetOp :=
  [.setClientID [0x63], .setWill ((Publish.new.setQoS 1)), .setUsername [0x75], .addUserProp [0x6b] [0x76],
   .setCleanStart true]

example : (∀ op ∈ exampleOps, op.OK) ∧ ∃ p, (Packet.new 1).applyAll exampleOps = some p ∧ p.Final := by
  have hs : ∀ b : Bytes, b.length < 65536 → strOK b := fun _ h => h
  constructor
  · intro op hop
    simp only [exampleOps, List.mem_cons, List.mem_nil_iff, or_false] at hop
    rcases hop with rfl | rfl | rfl | rfl | rfl
    · exact hs _ (by decide)
    · exact ⟨by decide, by decide, by decide, rfl, rfl, rfl, hs _ (by decide), hs _ (by decide), hs _ (by decide),
        hs _ (by decide), hs _ (by decide), ups_nil⟩
    · exact hs _ (by decide)
    · exact ⟨by decide, hs _ (by decide), hs _ (by decide)⟩
    · trivial
  · refine ⟨_, rfl, ?_, ?_⟩
    · intro hn; cases hn
    · intro b hb
      have h : some b = some _ := hb.symm
      cases h
      decide

end Mq
