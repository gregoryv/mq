import Props.C02
import Props.C03
import Proofs.FillPackets
/-!
# C01 — write then read returns the same packet, field for field

`C01_roundtrip` is the full statement, on the whole C01 domain `Packet.InDomainL`
(Props/Domain.lean): every packet the constructors and setters build whose `WriteTo` succeeds —
strings of 0 … 65 535 bytes, remaining length up to 268 435 455, and also the packets that are
constructible but *not* valid MQTT: a CONNECT with any protocol name and version, a SUBSCRIBE with
any of the 256 option bytes per filter, a SUBACK/UNSUBACK without reason codes, any reason-code
byte. **`ReadPacket` returns the packet that was written, as a value** — same dynamic type, every
accessor equal, nested will included, re-encoding byte-identical — and consumes exactly the frame.

Route. On the structurally valid sub-domain `Packet.InDomain` the encoder's output is a frame of
the specification's language (C02), which the decoder accepts with the specification's view (C03);
the view and the first byte determine the packet value (Proofs.Inject); `C01_frame` (Proofs.Codec)
composes the three. The three relaxations:
SUBSCRIBE and SUBACK/UNSUBACK go the same route through the *lenient* legality `Spec.SPacket.LegalL`
(`E_subscribe_L`/`D_subscribe_L`, `E_suback_L`/`D_suback_L`: the decoder does not need those two
restrictions); CONNECT goes by substitution (`Connect.unmarshal_subst`: the decoder stores the name
and version and never looks at them again), reducing any name/version to `MQTT`/5.
-/
namespace Mq
open Spec (SPacket)

theorem firstByte_nibble (sp : SPacket) (h : sp.Legal) : (sp.firstByte >>> 4).toNat = sp.kind := by
  obtain ⟨q, hq, hk, _⟩ := C03_frame sp h
  rw [← (frameOutcome_kind_fixed hq).1, hk]

theorem frameBytes_inj (b0 b1 : UInt8) (x y : Bytes) (hx : x.length < 268435456) (hy : y.length < 268435456)
    (h : frameBytes b0 x = frameBytes b1 y) : x = y := by
  simp only [frameBytes, List.cons.injEq] at h
  have h1 := pureVb_enc x.length hx default x
  have h2 := pureVb_enc y.length hy default y
  rw [h.2, h2] at h1
  simp only [Prod.mk.injEq] at h1
  exact h1.2.symm

/-- **C01**: `ReadPacket` on the bytes `WriteTo` produced — delivered by any reader under any
schedule, followed by anything — returns, without error, *the packet that was written* (same
dynamic type, every field equal), and consumes exactly the frame. For every packet of the C01
domain; sizes are unbounded in the statement: strings of 0 … 65 535 bytes, remaining lengths in
their one- to four-byte forms. -/
theorem C01_roundtrip (p : Packet) (h : p.InDomainL) (bs : Bytes) (he : p.encode = .bytes bs)
    (r : Reader) (rest : Bytes) (hd : r.data = bs ++ rest) :
    (readPacket r).1 = .pkt p ∧ (readPacket r).2.data = rest := by
  obtain ⟨body, rfl, hlen, hout⟩ := C01_frame p h bs he
  exact hout ▸ readPacket_frame r p.fixed body rest hlen hd

/-- the same on the structurally valid part alone: a special case, `InDomain` being inside `InDomainL` -/
theorem C01_roundtrip_partial (p : Packet) (h : p.InDomain) (bs : Bytes) (he : p.encode = .bytes bs)
    (r : Reader) (rest : Bytes) (hd : r.data = bs ++ rest) :
    (readPacket r).1 = .pkt p ∧ (readPacket r).2.data = rest :=
  C01_roundtrip p (p.inDomainL_of_inDomain h) bs he r rest hd

/-- **C01 as the property words it**: for every packet built with a public constructor and any
sequence of setter/adder calls whose arguments are inside MQTT's limits, `ReadPacket` on the bytes
`WriteTo` produced returns that very packet and consumes exactly the frame -/
theorem C01_api (k : Nat) (ops : List SetOp) (p : Packet) (h : (Packet.new k).applyAll ops = some p)
    (hok : ∀ op ∈ ops, op.OK) (hf : p.Final) (bs : Bytes) (he : p.encode = .bytes bs)
    (r : Reader) (rest : Bytes) (hd : r.data = bs ++ rest) :
    (readPacket r).1 = .pkt p ∧ (readPacket r).2.data = rest :=
  C01_roundtrip p (Packet.api_inDomainL k ops p h hok hf) bs he r rest hd

/-- the consequences the property lists: same type, every accessor (nested will, user properties,
subscription identifiers, filters, reason codes in order), and byte-identical re-encoding -/
theorem C01_accessors_and_reencoding (p : Packet) (h : p.InDomainL) (bs : Bytes) (he : p.encode = .bytes bs) :
    ∃ q, (readPacket (Reader.contig bs)).1 = .pkt q ∧ q.kind = p.kind ∧ q.view = p.view ∧ q.encodeG = .bytes bs := by
  obtain ⟨h1, _⟩ := C01_roundtrip p h bs he (Reader.contig bs) [] (by simp [Reader.contig])
  exact ⟨p, h1, rfl, rfl, by rw [Packet.encodeG_eq, he]⟩

/-- **a whole session**: any number of in-domain packets written back to back into one stream are
read back, by as many `ReadPacket` calls, as exactly those packets in that order — for every
fragmentation schedule of the reader and whatever follows the last frame (which is left unread).
One packet's content can therefore never leak into, truncate or shift its neighbour's. -/
theorem C01_stream : ∀ (pbs : List (Packet × Bytes)) (r : Reader) (tail : Bytes),
    (∀ x ∈ pbs, x.1.InDomainL ∧ x.1.encode = .bytes x.2) →
    r.data = (pbs.map (·.2)).flatten ++ tail →
    (readAll pbs.length r).1 = pbs.map (fun x => RP.pkt x.1) ∧ (readAll pbs.length r).2.data = tail :=
  fun pbs r tail hall hd =>
    have h := readAll_chain (·.2) (fun x => RP.pkt x.1) pbs r tail
      (fun x hx r rest hd => C01_roundtrip x.1 (hall x hx).1 x.2 (hall x hx).2 r rest hd)
      (by rw [List.flatMap_def]; exact hd)
    ⟨h.1, h.2.1⟩

/-- non-vacuity: PINGREQ, a PUBACK and a DISCONNECT on one stream, one byte at a time, with a stray
trailing byte -/
example :
    let r : Reader := { data := [0xc0, 0x00, 0x40, 0x02, 0x00, 0x01, 0xe0, 0x00, 0xaa], sched := List.replicate 12 1 }
    (readAll 3 r).1 = [.pkt (.pingreq { fixed := 0xc0 }), .pkt (.puback { fixed := 0x40, packetID := 1 }),
                        .pkt (.disconnect { fixed := 0xe0 })]
      ∧ (readAll 3 r).2.data = [0xaa] := by decide

/-- non-vacuity and the boundary the property was written for: a PUBLISH whose topic is `n` bytes
long, for every `n` up to 65 535, is in the domain -/
example (n : Nat) (hn : n < 65536) : (Packet.publish { topicName := List.replicate n 0x61 }).InDomain := by
  have hq : ({ topicName := List.replicate n 0x61 } : Publish).qos = 0 := by
    show (if has 0x30 6 then 3 else if has 0x30 2 then 1 else if has 0x30 4 then 2 else 0 : UInt8) = 0; decide
  have hh : ({ topicName := List.replicate n 0x61 } : Publish).hasPacketID = false := by
    simp only [Publish.hasPacketID, hq]; decide
  have hp : ({ topicName := List.replicate n 0x61 } : Publish).props = [] := by
    simp [Publish.props, encPropOpt, WVal.isZero, encUserProps]
  refine ⟨by show (0x30 : UInt8) &&& 0xf0 = 0x30; decide, by rw [hq]; decide, fun _ => rfl, ?_, ?_, ?_, ?_, ?_, ?_, ?_⟩
  · simpa [strOK] using hn
  · simp [strOK]
  · simp [strOK]
  · simp [strOK]
  · intro kv hkv; simp at hkv
  · intro v hv; simp at hv
  · simp only [Publish.body, Publish.varHeader, hh, hp]
    simp [encVb, encVbAux]; omega

/-- non-vacuity of the relaxations: a CONNECT named `MQIsdp` version 3, a SUBSCRIBE whose option
byte is 0xff, an UNSUBACK with no reason code — each in the C01 domain -/
example : (Packet.subscribe { packetID := 1, filters := [{ filter := [0x61], options := 0xff }] }).InDomainL := by
  refine ⟨rfl, fun v hv => by simp at hv, fun kv hkv => by simp at hkv, by simp, ?_, by decide⟩
  intro f hf; simp only [List.mem_singleton] at hf; subst hf; unfold strOK; decide
example : (Packet.unsuback { fixed := 0xb0, packetID := 1 }).InDomainL :=
  ⟨Or.inr rfl, rfl, by unfold strOK; decide, fun kv hkv => by simp at hkv, by decide⟩

example : (Packet.connect (Connect.new.setNV [0x4d, 0x51, 0x49, 0x73, 0x64, 0x70] 3)).InDomainL := by
  refine ⟨show (6 : Nat) < 65536 by decide,
    (Connect.inDomainW_iff (p := Connect.new)).mpr ⟨Connect.new_reach, ⟨rfl, rfl⟩, fun _ => rfl, ?_⟩, ?_⟩
  · intro b hb
    have h : Connect.new.body? = some [0, 4, 0x4d, 0x51, 0x54, 0x54, 5, 0, 0, 0, 0, 0, 0] := by decide
    rw [h] at hb; cases hb; decide
  · intro b hb
    have h : (Connect.new.setNV [0x4d, 0x51, 0x49, 0x73, 0x64, 0x70] 3).body?
        = some [0, 6, 0x4d, 0x51, 0x49, 0x73, 0x64, 0x70, 3, 0, 0, 0, 0, 0, 0] := by decide
    rw [h] at hb; cases hb; decide
end Mq
