import Proofs.ReadPacket
/-!
# C15 — variable byte integers are encoded minimally and decoded exactly

`encVb` is the encoder loop of `vbint.fill`, `decVb` the in-memory decoder
(`vbint.UnmarshalBinary` + the recomputed `width()`), `readVb 5` the streaming decoder
(`vbint.ReadFrom`). All statements are for every value / every byte string — nothing is enumerated.
-/
namespace Mq

/-- every value 0 … 268 435 455 is written in 1–4 bytes, the length MQTT prescribes -/
theorem C15_enc_length (x : Nat) (h : x < 268435456) :
    (encVb x).length = if x < 128 then 1 else if x < 16384 then 2 else if x < 2097152 then 3 else 4 :=
  encVb_length x h

/-- continuation bit on all bytes but the last, which has it clear -/
theorem C15_enc_shape (x : Nat) : VbShape (encVb x) := encVb_shape x

/-- … and the form is the minimal one: a multi-byte encoding never ends in a zero byte -/
theorem C15_enc_minimal (x : Nat) (h : 128 ≤ x) : (encVb x).getLast? ≠ some 0 :=
  encVb_last_ne_zero x (Nat.lt_of_lt_of_le (by decide) h)

/-- the in-memory decoder returns exactly the value and advances by exactly its bytes -/
theorem C15_mem_roundtrip (x : Nat) (h : x < 268435456) (rest : Bytes) :
    decVb (encVb x ++ rest) = .ok x (encVb x).length := decVb_enc x h rest

/-- the streaming decoder, under every delivery schedule, returns exactly the value and consumes
exactly its bytes -/
theorem C15_stream_roundtrip (x : Nat) (h : x < 268435456) (rest : Bytes) (r : Reader)
    (hd : r.data = encVb x ++ rest) :
    (readVb 5 r 1 0).1 = (some x, none) ∧ (readVb 5 r 1 0).2.data = rest := by
  rw [readVb_fst, readVb_data, hd, pureVb_enc x h]
  exact ⟨rfl, rfl⟩

/-- `width()` is the encoded length ("advance by exactly those bytes") -/
theorem C15_width (x : Nat) : vbWidth x = (encVb x).length := rfl

/-- on every byte sequence the two decoders agree on value or rejection -/
theorem C15_decoders_agree (d : Bytes) (r : Reader) (hd : r.data = d) :
    (∃ v w, decVb d = .ok v w ∧ (readVb 5 r 1 0).1 = (some v, none))
    ∨ ((∃ e, decVb d = .err e) ∧ ∃ e, (readVb 5 r 1 0).1 = (none, some e)) := by
  rw [readVb_fst, hd]
  exact (decoders_agree d r.fail).imp (fun ⟨v, h⟩ => ⟨v, _, h⟩) id

/-- a sequence with a fifth continuation byte is rejected by the in-memory decoder … -/
theorem C15_reject_long_mem (b1 b2 b3 b4 b5 : UInt8) (rest : Bytes)
    (h1 : 128 ≤ b1.toNat) (h2 : 128 ≤ b2.toNat) (h3 : 128 ≤ b3.toNat) (h4 : 128 ≤ b4.toNat) :
    decVb (b1 :: b2 :: b3 :: b4 :: b5 :: rest) = .err .sizeExceeded :=
  decVb_long b1 b2 b3 b4 b5 rest h1 h2 h3 h4

/-- … and by the streaming decoder (by agreement) -/
theorem C15_reject_long_stream (b1 b2 b3 b4 b5 : UInt8) (rest : Bytes) (r : Reader)
    (hd : r.data = b1 :: b2 :: b3 :: b4 :: b5 :: rest)
    (h1 : 128 ≤ b1.toNat) (h2 : 128 ≤ b2.toNat) (h3 : 128 ≤ b3.toNat) (h4 : 128 ≤ b4.toNat) :
    ∃ e, (readVb 5 r 1 0).1 = (none, some e) := by
  rw [readVb_fst, hd]
  exact pureVb_long b1 b2 b3 b4 b5 rest r.fail h1 h2 h3 h4

/-- a sequence that ends on a continuation byte is rejected -/
theorem C15_reject_truncated (d : Bytes) (hall : ∀ b ∈ d, 128 ≤ b.toNat) : ∀ (m a : Nat),
    ∃ e, decVbLoop d m a = .err e :=
  decVbLoop_all_cont d hall

/-- every decoded value is below 2^28, so no intermediate of the Go `uint` arithmetic can wrap -/
theorem C15_no_overflow (d : Bytes) (v w : Nat) (h : decVb d = .ok v w) : v < 268435456 :=
  decVbLoop_bound d 0 0 Nat.one_pos v w h

/-- non-vacuity: the four size boundaries and the two rejections named in the property -/
example : encVb 127 = [0x7f] ∧ encVb 128 = [0x80, 0x01] ∧ encVb 16384 = [0x80, 0x80, 0x01]
    ∧ encVb 268435455 = [0xff, 0xff, 0xff, 0x7f] := by decide
example : decVb [0x80] = .err .missing ∧ decVb [0x80, 0x80, 0x80, 0x80, 0x01] = .err .sizeExceeded := by decide

end Mq
