import Proofs.PacketSafe
/-!
# C04 — decoding never panics, whatever bytes arrive

`St.panic` is the model's outcome for every partial Go operation inside the decoders (slice index,
slice expression); `RP.panic`/`RP.hang` those of ReadPacket.
-/
namespace Mq

/-- `UnmarshalBinary` of every packet type (16 dispatch targets), on every byte string and
every receiver state, returns normally. -/
theorem C04_unmarshal_total (p : Packet) (data : Bytes) :
    (p.unmarshal data).2 ≠ .panic ∧ (p.unmarshal data).2 ≠ .hang :=
  Packet.unmarshal_safe p data

/-- `ReadPacket` through any reader — any bytes, any delivery schedule, any way the stream ends
— returns either a packet (with nil error) or an error (with nil packet): never both, never
neither, never a panic. `RP.pkt`/`RP.err` are exactly those two shapes. -/
theorem C04_readPacket_xor (r : Reader) :
    (∃ q, (readPacket r).1 = .pkt q) ∨ (∃ e, (readPacket r).1 = .err e) :=
  readPacket_xor r

/-- every wire decoder is panic-free behind the one-byte guard of `buffer.get` -/
theorem C04_wire_decoders (old : Bytes) (k : WKind) (d : Bytes) (h : d ≠ []) : decK old k d ≠ .panic :=
  decK_noPanic old k d h

/-- non-vacuity: the frame `40 01 00` (PUBACK cut inside its packet identifier), which used to
panic, is answered with an error; and a well-formed frame is accepted. -/
example : (readPacket (Reader.contig [0x40, 0x01, 0x00])).1 = .err .missing := by decide
example : (readPacket (Reader.contig [0x40, 0x02, 0x00, 0x07])).1 = .pkt (.puback { fixed := 0x40, packetID := 7 }) := by decide

end Mq
