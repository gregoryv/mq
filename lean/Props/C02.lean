import Props.Reach
import Proofs.Codec
/-!
# C02 — everything WriteTo emits is a structurally valid MQTT v5.0 frame

"Structurally valid" is the specification layer's `SPacket.Legal` (Spec.Types, written from the
standard, sharing no table with the model): allowed identifiers per packet with their wire type,
at most once unless repeatable, strings within 65 535 bytes, property length and remaining length
as minimal variable byte integers equal to what follows, the short forms only where MQTT allows
them, reserved bits as prescribed — and the frame is `unparse` of that abstract packet: first
byte, remaining length, body in the prescribed field order. The theorem exhibits, for every
packet of the domain, the abstract packet the emitted bytes are the writing of (`Packet.abs`, with
`Packet.E` in Proofs.Codec), and shows that its
specification-side reading (`view`, absent = zero value) equals the values set through the API.
`C02_reference_decoder` adds the strict parser: `Spec.parse` accepts the frame and reads the same values
(`Spec.parse_unparse`, Proofs.SpecParse: the parser and the generator of the specification layer agree).
-/
namespace Mq
open Spec (SPacket)

/-- **C02**: for every packet of the domain the bytes `WriteTo` emits are exactly one frame, the
`unparse` of a legal abstract packet of the same type whose specification-side reading equals the
packet's accessor values -/
theorem C02_emits_valid (p : Packet) (h : p.InDomain) (bs : Bytes) (he : p.encode = .bytes bs) :
    ∃ sp : SPacket, p.abs = some sp ∧ sp.Legal ∧ sp.unparse = bs ∧ sp.kind = p.kind ∧ sp.view = p.view :=
  (Packet.E p h bs he).imp fun _ ⟨ha, hl, hu, hk, hv, _⟩ => ⟨ha, hl, hu, hk, hv⟩

/-- **C02 as the property words it**: a packet built with a public constructor and in-limit setter/adder calls
that is final (`Packet.Final`) and valid MQTT (`Packet.FinalValid`) is written as exactly the `unparse` of a legal
abstract packet with the same reading -/
theorem C02_api (k : Nat) (ops : List SetOp) (p : Packet) (h : (Packet.new k).applyAll ops = some p)
    (hok : ∀ op ∈ ops, op.OK) (hf : p.Final) (hv : p.FinalValid) (bs : Bytes) (he : p.encode = .bytes bs) :
    ∃ sp : SPacket, p.abs = some sp ∧ sp.Legal ∧ sp.unparse = bs ∧ sp.kind = p.kind ∧ sp.view = p.view :=
  C02_emits_valid p (Packet.api_inDomain k ops p h hok hf hv) bs he

/-- **C02 against an independent reader**: the strict reference reader of the specification layer
(`Spec.parse`: minimal remaining length equal to what follows, nothing after the frame, reserved
flags, booleans 0/1, allowed identifiers per packet with their wire type, at most once unless
repeatable, non-empty lists where MQTT requires them) accepts every frame `WriteTo` emits and reads
back exactly the values that were set -/
theorem C02_reference_decoder (p : Packet) (h : p.InDomain) (bs : Bytes) (he : p.encode = .bytes bs) :
    ∃ sp : SPacket, Spec.parse bs = some sp ∧ sp.kind = p.kind ∧ sp.view = p.view := by
  obtain ⟨sp, habs, hl, hu, hk, hv⟩ := C02_emits_valid p h bs he
  exact ⟨sp, by rw [← hu]; exact Spec.parse_unparse sp hl (abs_canonical p h sp habs), hk, hv⟩

/-- exactly one frame and nothing else: first byte, the remaining length as the minimal variable
byte integer of the number of bytes that follow (below 2^28), those bytes -/
theorem C02_one_frame (p : Packet) (h : p.InDomain) (bs : Bytes) (he : p.encode = .bytes bs) :
    ∃ first body, bs = first :: (encVb body.length ++ body) ∧ body.length < 268435456 := by
  obtain ⟨sp, _, hl, hu, _, _⟩ := C02_emits_valid p h bs he
  exact ⟨sp.firstByte, sp.body, hu.symm, hl.2⟩

/-- **a whole session**: the bytes any number of in-domain packets put on one stream, written back to
back, are the concatenation of the frames of as many legal abstract packets, one per packet and in
the order written, each of the matching type and with the reading of its packet — nothing between
the frames, nothing after the last. -/
theorem C02_stream : ∀ (pbs : List (Packet × Bytes)), (∀ x ∈ pbs, x.1.InDomain ∧ x.1.encode = .bytes x.2) →
    ∃ sps : List SPacket, (∀ sp ∈ sps, sp.Legal) ∧ sps.flatMap (·.unparse) = (pbs.map (·.2)).flatten
      ∧ sps.map (fun sp => (sp.kind, sp.view)) = pbs.map (fun x => (x.1.kind, x.1.view)) := by
  intro pbs
  induction pbs with
  | nil => intro _; exact ⟨[], by simp, rfl, rfl⟩
  | cons x pbs ih =>
    intro hall
    obtain ⟨sp, _, hl, hu, hk, hv⟩ := C02_emits_valid x.1 (hall x (by simp)).1 x.2 (hall x (by simp)).2
    obtain ⟨sps, h1, h2, h3⟩ := ih (fun y hy => hall y (by simp [hy]))
    refine ⟨sp :: sps, ?_, ?_, ?_⟩
    · intro y hy
      rcases List.mem_cons.mp hy with rfl | hy
      · exact hl
      · exact h1 y hy
    · simp only [List.flatMap_cons, List.map_cons, List.flatten_cons]; rw [hu, h2]
    · simp only [List.map_cons]; rw [hk, hv, h3]

/-- non-vacuity of `C02_stream`'s premise: a PINGREQ followed by a PINGRESP -/
example : ∀ x ∈ [(Packet.pingreq { fixed := 0xc0 }, ([0xc0, 0x00] : Bytes)), (Packet.pingresp { fixed := 0xd0 }, [0xd0, 0x00])],
    x.1.InDomain ∧ x.1.encode = .bytes x.2 := by
  intro x h
  simp only [List.mem_cons, List.not_mem_nil, or_false] at h
  rcases h with rfl | rfl <;> exact ⟨by simp [Packet.InDomain, Ping.InDomain], by decide⟩

/-- the defect this property was written for cannot recur: an acknowledgement with reason code 0
and a property is written with its reason code — the abstract packet has form `full` -/
example :
    let p : Ack := { fixed := 0x40, packetID := 7, userProps := [([0x6b], [0x76])] }
    (Ack.abs 4 p) = .ack 4 7 .full 0 [⟨0x26, .pair [0x6b] [0x76]⟩]
    ∧ p.encode = [0x40, 0x0b, 0x00, 0x07, 0x00, 0x07, 0x26, 0x00, 0x01, 0x6b, 0x00, 0x01, 0x76] := by decide

/-- non-vacuity: a CONNECT with a will, credentials and properties is in the domain -/
example :
    let w : Publish := { topicName := [0x74], payload := [0x70], contentType := [0x63] }
    let c : Connect := ((Connect.new.setWill w).setUsername [0x75]).setPassword [0x73]
    (c.abs).legal = true ∧ c.flags = 0xc4 := by decide +kernel

end Mq
