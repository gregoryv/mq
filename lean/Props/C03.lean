import Proofs.FrameRead
import Proofs.Codec
import Proofs.Tie.Decode
/-!
# C03 — every valid MQTT v5.0 frame is accepted and decoded to the values it carries

`Spec.SPacket` is an abstract packet with its properties in wire order and its short/long form;
`sp.Legal` is structural validity by the specification (Spec.Types: allowed identifiers, wire
types, multiplicities, string and remaining-length limits, non-empty payload lists, reserved
bits); `sp.unparse` writes it. The valid-frame language is `{ sp.unparse | sp.Legal }`: every
property order, explicit zero values, every short form, strings up to 65 535 bytes, multi-byte
property lengths. `sp.view` is what a specification-faithful reading gives, in accessor form.

`Proofs.Tie.Decode` is imported for what it checks, not for a lemma: the property tables of the model's decoders
against the `propertyMap`s extracted from the source (`T1_*`). When the source changes a table, this file no longer builds.
-/
namespace Mq
open Spec (SPacket)

/-- the decoder on the frame `sp.unparse` of any legal abstract packet: a packet of the matching
type whose accessors report exactly the specification's reading -/
theorem C03_frame (sp : SPacket) (h : sp.Legal) :
    ∃ q, frameOutcome sp.firstByte sp.body = .pkt q ∧ q.kind = sp.kind ∧ q.view = sp.view :=
  D_frame sp h.lenient

/-- **C03**: for every structurally valid frame — delivered by any reader under any schedule,
followed by anything — ReadPacket returns, without error, a packet of the matching type whose
accessors report exactly the values a specification-faithful reading of the frame gives, and
consumes exactly the frame. -/
theorem C03_accepts_valid (sp : SPacket) (h : sp.Legal) (r : Reader) (rest : Bytes)
    (hd : r.data = sp.unparse ++ rest) :
    ∃ q, (readPacket r).1 = .pkt q ∧ q.kind = sp.kind ∧ q.view = sp.view ∧ (readPacket r).2.data = rest := by
  obtain ⟨q, hq, hk, hv⟩ := C03_frame sp h
  obtain ⟨h1, h2⟩ := readPacket_frame r sp.firstByte sp.body rest h.2 hd
  exact ⟨q, h1.trans hq, hk, hv, h2⟩

/-- **a whole session**: a stream made of any number of valid frames — each the `unparse` of a legal
abstract packet — followed by anything is accepted frame by frame: as many `ReadPacket` calls
return, in order and without error, packets of the matching types whose accessors report the
specification's reading of the respective frame, and leave what follows unread. -/
theorem C03_session : ∀ (sps : List SPacket) (r : Reader) (tail : Bytes), (∀ sp ∈ sps, sp.Legal) →
    r.data = sps.flatMap (·.unparse) ++ tail →
    ∃ qs : List Packet, (readAll sps.length r).1 = qs.map RP.pkt
      ∧ qs.map (fun q => (q.kind, q.view)) = sps.map (fun sp => (sp.kind, sp.view))
      ∧ (readAll sps.length r).2.data = tail := by
  intro sps
  induction sps with
  | nil => intro r tail _ hd; exact ⟨[], rfl, rfl, by simpa [readAll] using hd⟩
  | cons sp sps ih =>
    intro r tail hall hd
    obtain ⟨q, h1, hk, hv, hrest⟩ := C03_accepts_valid sp (hall sp (by simp)) r
      (sps.flatMap (·.unparse) ++ tail) (by rw [hd]; simp)
    obtain ⟨qs, h2, h3, h4⟩ := ih (readPacket r).2 tail (fun x hx => hall x (by simp [hx])) hrest
    refine ⟨q :: qs, ?_, ?_, ?_⟩
    · simp only [List.length_cons, readAll, List.map_cons]; rw [h1, h2]
    · simp only [List.map_cons]; rw [h3, hk, hv]
    · simpa only [List.length_cons, readAll] using h4

/-- non-vacuity of `C03_session`'s premise: a two-frame session -/
example : ∀ sp ∈ [SPacket.ack 4 7 .reason 0x10 [], SPacket.connack true 0 [⟨0x21, .u16 0⟩, ⟨0x25, .bool false⟩]],
    sp.Legal := by
  intro sp h
  simp only [List.mem_cons, List.not_mem_nil, or_false] at h
  rcases h with rfl | rfl <;> constructor <;> decide

/-- non-vacuity: a DISCONNECT carrying a reason string and a user property in "foreign" order,
a PUBACK of remaining length 3, a CONNACK with an explicit zero-valued property -/
example : (SPacket.disconnect .full 0x8b [⟨0x26, .pair [0x6b] [0x76]⟩, ⟨0x1f, .bin [0x61]⟩]).Legal := by
  constructor <;> decide
example : (SPacket.ack 4 7 .reason 0x10 []).Legal := by constructor <;> decide
example : (SPacket.connack true 0 [⟨0x21, .u16 0⟩, ⟨0x25, .bool false⟩]).Legal := by constructor <;> decide
example : (SPacket.disconnect .full 0x8b [⟨0x26, .pair [0x6b] [0x76]⟩, ⟨0x1f, .bin [0x61]⟩]).unparse
    = [0xe0, 0x0d, 0x8b, 0x0b, 0x26, 0x00, 0x01, 0x6b, 0x00, 0x01, 0x76, 0x1f, 0x00, 0x01, 0x61] := by decide

end Mq
