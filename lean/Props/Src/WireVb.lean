import Proofs.Tie.WireVb
/-!
# Props.Src.WireVb — the variable byte integer codec of the model is the translated source (serves C15, C03, C04, C09)

Built by a check only when the translator rendered the family completely (DESIGN.md, *when a source tie is a broken
obligation and when it is merely unavailable*).
-/
namespace Mq

/-- **the in-memory decoder** `vbint.UnmarshalBinary`, rendered from /repo's `wiretypes.go` on every run — the empty
input, the mask `& 127`, the multiplier limit `128*128*128` with its comparison operator, the continuation bit `& 128`,
the step `* 128`, running out of data — is the model's `decVb`, with the width the cursor then advances by -/
theorem C15_vbint_decoder_from_source : Gen.vbint.dec = decVb :=
  Tie.WireVb.vbint_dec

/-- **the encoder loop** `vbint.fill` (`x % 128`, `x / 128`, `| 128` while more follows, each byte under its own guard
`i < len(data)`) is the model's filler, and `vbint.width()` is the length of the minimal encoding the theorems of C15
are about -/
theorem C15_vbint_encoder_from_source :
    (∀ v, Gen.vbint.fill v = fillVb v) ∧ (∀ n, Gen.vbint.width n = (encVb n).length) :=
  ⟨Tie.WireVb.vbint_fill, Tie.WireVb.vbint_width⟩

end Mq
