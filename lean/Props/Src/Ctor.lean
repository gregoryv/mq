import Proofs.Tie.Ctor
/-!
# Props.Src.Ctor — what every API history starts from is what the source's constructors build (serves C12, C16, C01)

Built by a check only when the translator rendered the family completely (DESIGN.md, *when a source tie is a broken
obligation and when it is merely unavailable*).
-/
namespace Mq

/-- **the constructors**: /repo has a `New<Type>()` for each of the 15 packet types; the first byte each sets —
type nibble and the reserved flag bits of PUBREL, SUBSCRIBE and UNSUBSCRIBE, as the type checker folds the constant
expression — is the first byte of the model's `Packet.new`; CONNECT's protocol name and version are the model's; no
constructor sets any other field -/
theorem C12_constructors_from_source :
    (Gen.constructors.length = 15 ∧ ∀ k : Fin 15, Packet.kindName (k.val + 1) ∈ Gen.constructors)
    ∧ (∀ k : Fin 15, Tie.Ctor.numOf (Packet.kindName (k.val + 1)) "fixed" = some (Packet.new (k.val + 1)).fixed.toNat)
    ∧ (Gen.ctorNumbers.length = 16 ∧ Tie.Ctor.numOf "Connect" "protocolVersion" = some Connect.new.protocolVersion.toNat
        ∧ Gen.ctorBytes = [("Connect", "protocolName", Connect.new.protocolName)]) :=
  ⟨Tie.Ctor.constructors_15, Tie.Ctor.fixed_eq, Tie.Ctor.others⟩

/-- **`bits.Has` and `bits.toggle`**, which every flag accessor and setter of the library goes through, are the `has`
and `toggle` the model's setters, accessors and decoders use; `Connect.willQoS` (mask and shift of the will QoS
bits, as the type checker folds the constants) is the model's -/
theorem C12_bit_helpers_from_source :
    Gen.bits.has = has ∧ Gen.bits.toggle = toggle ∧ (∀ p : Connect, Gen.Connect.willQoS p.flags = p.willQoS) :=
  ⟨Tie.Ctor.has_eq, Tie.Ctor.toggle_eq, Tie.Ctor.willQoS_eq⟩

end Mq
