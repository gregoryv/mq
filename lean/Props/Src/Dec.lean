import Proofs.Tie.Dec
/-!
# Props.Src.Dec — the decoder model is the translated source (serves C01, C03, C09)

Built by a check only when the translator rendered the family completely (DESIGN.md, *when a source tie is a broken
obligation and when it is merely unavailable*).
-/
namespace Mq

/-- **the decoder these theorems are about is the one in /repo's source**: each packet type's
`UnmarshalBinary`, translated statement by statement from the Go source on every run together with
the property-map literals it hands to `getAny` (`Mq/Generated/Dec.lean`), is the hand-written
decoder of `Mq/Packet/*.lean` that `Packet.unmarshal` dispatches to. -/
theorem C03_decoder_from_source :
    (∀ p d, Gen.Connect.unmarshal p d = p.unmarshal d) ∧ (∀ p d, Gen.ConnAck.unmarshal p d = p.unmarshal d)
    ∧ (∀ p d, Gen.Publish.unmarshal p d = p.unmarshal d) ∧ (∀ p d, Gen.PubAck.unmarshal p d = p.unmarshal d)
    ∧ (∀ p d, Gen.PubRec.unmarshal p d = p.unmarshal d) ∧ (∀ p d, Gen.PubRel.unmarshal p d = p.unmarshal d)
    ∧ (∀ p d, Gen.PubComp.unmarshal p d = p.unmarshal d) ∧ (∀ p d, Gen.Subscribe.unmarshal p d = p.unmarshal d)
    ∧ (∀ p d, Gen.SubAck.unmarshal p d = p.unmarshal d) ∧ (∀ p d, Gen.Unsubscribe.unmarshal p d = p.unmarshal d)
    ∧ (∀ p d, Gen.UnsubAck.unmarshal p d = p.unmarshal d) ∧ (∀ p d, Gen.PingReq.unmarshal p d = p.unmarshal d)
    ∧ (∀ p d, Gen.PingResp.unmarshal p d = p.unmarshal d) ∧ (∀ p d, Gen.Disconnect.unmarshal p d = p.unmarshal d)
    ∧ (∀ p d, Gen.Auth.unmarshal p d = p.unmarshal d) ∧ (∀ p d, Gen.Undefined.unmarshal p d = p.unmarshal d) :=
  ⟨Tie.Dec.connect_unmarshal, Tie.Dec.connack_unmarshal, Tie.Dec.publish_unmarshal, Tie.Dec.pubAck_unmarshal,
   Tie.Dec.pubRec_unmarshal, Tie.Dec.pubRel_unmarshal, Tie.Dec.pubComp_unmarshal, Tie.Dec.subscribe_unmarshal,
   Tie.Dec.subAck_unmarshal, Tie.Dec.unsubscribe_unmarshal, Tie.Dec.unsubAck_unmarshal, Tie.Dec.pingreq_unmarshal,
   Tie.Dec.pingresp_unmarshal, Tie.Dec.disconnect_unmarshal, Tie.Dec.auth_unmarshal, Tie.Dec.undefined_unmarshal⟩

end Mq
