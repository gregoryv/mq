import Proofs.Tie.Enc
import Proofs.Tie.Encode
import Proofs.FillPackets
/-!
# Props.Src.Enc — the encoder model is the translated source (serves C01, C02, C10)

Built by a check only when the translator rendered the family completely (DESIGN.md, *when a source tie is a broken
obligation and when it is merely unavailable*).
-/
namespace Mq

/-- **the encoder these theorems are about is the one in /repo's source**: each packet type's `fill`
method, translated statement by statement from the Go source on every run
(`Mq/Generated/Enc.lean`, with `variableHeader`, `payload`, `properties` and the will closure it
calls), is the hand-written filler that `Packet.encodeG_eq` proves equal to `Packet.encode`.
CONNECT by cases: will attached, or will flag clear. -/
theorem C02_encoder_from_source :
    (∀ p, Gen.ConnAck.fill p = p.fillG) ∧ (∀ p, Gen.Publish.fill p = p.fillG)
    ∧ (∀ p, Gen.PubAck.fill p = p.fillG) ∧ (∀ p, Gen.PubRec.fill p = p.fillG) ∧ (∀ p, Gen.PubRel.fill p = p.fillG)
    ∧ (∀ p, Gen.PubComp.fill p = p.fillG) ∧ (∀ p, Gen.Subscribe.fill p = p.fillG) ∧ (∀ p, Gen.SubAck.fill p = p.fillG)
    ∧ (∀ p, Gen.Unsubscribe.fill p = p.fillG) ∧ (∀ p, Gen.UnsubAck.fill p = p.fillG) ∧ (∀ p, Gen.PingReq.fill p = p.fillG)
    ∧ (∀ p, Gen.PingResp.fill p = p.fillG) ∧ (∀ p, Gen.Disconnect.fill p = p.fillG) ∧ (∀ p, Gen.Auth.fill p = p.fillG)
    ∧ (∀ (p : Connect) w, p.will = some w → p.fillG? = some (Gen.Connect.fill p w))
    ∧ (∀ (p : Connect) w, has p.flags Connect.fWillFlag = false → p.fillG? = some (Gen.Connect.fill p w)) :=
  ⟨Tie.Enc.connack_fill, Tie.Enc.publish_fill, Tie.Enc.pubAck_fill, Tie.Enc.pubRec_fill, Tie.Enc.pubRel_fill,
   Tie.Enc.pubComp_fill, Tie.Enc.subscribe_fill, Tie.Enc.subAck_fill, Tie.Enc.unsubscribe_fill, Tie.Enc.unsubAck_fill,
   Tie.Enc.pingreq_fill, Tie.Enc.pingresp_fill, Tie.Enc.disconnect_fill, Tie.Enc.auth_fill,
   Tie.Enc.connect_fill_will, Tie.Enc.connect_fill_noflag⟩

/-- the table-level view of the same: the `fillProp` sequence of every `properties` method as
extracted from the source (identifier, wire type) is the model's field order -/
theorem C02_property_order_from_source :
    (∀ p, Tie.kinds (Tie.connectFields p) ++ Tie.up = Tie.order "Connect.properties")
    ∧ (∀ p w, Tie.kinds (Tie.willFields p w) ++ Tie.up = Tie.order "Connect.payload(will)")
    ∧ (∀ p, Tie.kinds (Tie.connackFields p) ++ Tie.up = Tie.order "ConnAck.properties")
    ∧ (∀ p, Tie.kinds (Tie.publishFields p) ++ Tie.up ++ [(11, .vb)] = Tie.order "Publish.properties") :=
  ⟨Tie.T2_connect, Tie.T2_will, Tie.T2_connack, Tie.T2_publish⟩

end Mq
