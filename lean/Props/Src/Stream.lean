import Proofs.Tie.Stream
/-!
# Props.Src.Stream — the stream reader of the model is the translated source (serves C06, C07, C08, C15)

Built by a check only when the translator rendered the family completely (DESIGN.md, *when a source tie is a broken
obligation and when it is merely unavailable*).
-/
namespace Mq

/-- **`ReadPacket`**, rendered from /repo's `packet.go` and `wiretypes.go` on every run — the fixed byte and every byte
of the remaining length fetched by an `io.ReadFull` of one byte, the length loop with its mask, limit, comparison,
continuation bit and step, the body fetched by one `io.ReadFull` of exactly the remaining length and skipped when that
is 0, the reader's error passed on wrapped with `%w`, `UnmarshalBinary` of the dispatched packet on exactly those
bytes — is the model's `readPacket` on every reader: every data, delivery schedule and failure -/
theorem C06_readPacket_from_source : Gen.readPacket = readPacket :=
  Tie.Stream.readPacket_eq

/-- the streaming decoder of the remaining length (`vbint.ReadFrom`) is the model's, for every reader and loop state -/
theorem C15_stream_decoder_from_source (fuel : Nat) (r : Reader) (m a : Nat) :
    Gen.vbint.readFrom fuel r m a = readVb fuel r m a :=
  Tie.Stream.readFrom_eq fuel r m a

/-- in `ReadPacket`, `fixedHeader.ReadFrom`/`ReadRemaining`, `bits.ReadFrom` and `vbint.ReadFrom` every error test reads
`err != nil`: an error is never taken for success nor success for an error -/
theorem C08_error_tests_from_source : Gen.streamErrTests.length = 5 ∧ Gen.streamErrTests.all (·.2) = true :=
  Tie.Stream.err_tests

end Mq
