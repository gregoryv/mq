import Proofs.Tie.Wire
/-!
# Props.Src.Wire — the wire layer's guards, widths and zero tests are the translated source (serves C04, C09, C10)

Built by a check only when the translator rendered the family completely (DESIGN.md, *when a source tie is a broken
obligation and when it is merely unavailable*).
-/
namespace Mq

/-- the `fill` methods of the wire types in /repo's `wiretypes.go` (guard, store, returned width), rendered on every
run, are the model's fillers -/
theorem C10_wire_fill_from_source :
    (∀ v, Gen.bits.fill v = fillByte v) ∧ (∀ v, Gen.Ident.fill v = fillByte v) ∧ (∀ v, Gen.wbool.fill v = fillBool v)
    ∧ (∀ v, Gen.wuint16.fill v = fillU16 v) ∧ (∀ v, Gen.wuint32.fill v = fillU32 v)
    ∧ (∀ v, Gen.bindata.fill v = fillBin v) ∧ (∀ v, Gen.rawdata.fill v = fillRaw v) :=
  ⟨Tie.Wire.bits_fill, Tie.Wire.ident_fill, Tie.Wire.wbool_fill, Tie.Wire.wuint16_fill, Tie.Wire.wuint32_fill,
   Tie.Wire.bindata_fill, Tie.Wire.rawdata_fill⟩

/-- **`fill(nil, 0)` returns `width()`** for every wire type — the contract the two-pass `WriteTo` (measure, allocate,
fill) and the `width()` printed by `String()` rest on -/
theorem C10_wire_dry_is_width :
    (∀ v, (Gen.bits.fill v).dry = Gen.bits.width v) ∧ (∀ v, (Gen.Ident.fill v).dry = Gen.Ident.width v)
    ∧ (∀ v, (Gen.wbool.fill v).dry = Gen.wbool.width v) ∧ (∀ v, (Gen.wuint16.fill v).dry = Gen.wuint16.width v)
    ∧ (∀ v, (Gen.wuint32.fill v).dry = Gen.wuint32.width v) ∧ (∀ v, (Gen.bindata.fill v).dry = Gen.bindata.width v)
    ∧ (∀ v, (Gen.rawdata.fill v).dry = Gen.rawdata.width v) ∧ (∀ v, (fillVb v).dry = Gen.vbint.width v) :=
  Tie.Wire.dry_is_width

/-- the decoders of the fixed-size wire types — their length guards, the value, and the width `buffer.get` then
advances by — rendered from the source, are the model's -/
theorem C09_wire_guards_from_source :
    Gen.bits.dec = decU8 ∧ Gen.Ident.dec = decU8 ∧ Gen.wbool.dec = decBool ∧ Gen.wuint16.dec = decU16
    ∧ Gen.wuint32.dec = decU32 :=
  ⟨Tie.Wire.bits_dec, Tie.Wire.ident_dec, Tie.Wire.wbool_dec, Tie.Wire.wuint16_dec, Tie.Wire.wuint32_dec⟩

/-- the zero test at the top of every `fillProp` (a property with the zero value is not written) is the model's -/
theorem C02_zero_tests_from_source :
    (∀ v, Gen.bits.isZero v = (WVal.u8 v).isZero) ∧ (∀ v, Gen.wuint16.isZero v = (WVal.u16 v).isZero)
    ∧ (∀ v, Gen.wuint32.isZero v = (WVal.u32 v).isZero) ∧ (∀ v, Gen.wbool.isZero v = (WVal.bool v).isZero)
    ∧ (∀ v, Gen.bindata.isZero v = (WVal.bin v).isZero) ∧ (∀ v, Gen.vbint.isZero v = (WVal.vb v).isZero) :=
  Tie.Wire.isZero_eq

/-- every `fillProp` of the wire layer returns 0 for the zero value and otherwise `i - n`, the bytes it wrote -/
theorem C02_fillProp_result_from_source :
    Gen.fillPropTails.length = 7 ∧ Gen.fillPropTails.all (fun e => e.2 == (0, true)) = true :=
  Tie.Wire.fillProp_tails

end Mq
