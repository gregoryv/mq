import Proofs.Tie.WriteTo
/-!
# Props.Src.WriteTo — the frame writer of every packet type has the shape the model gives it (serves C10)

Built by a check only when the translator rendered the family completely (DESIGN.md, *when a source tie is a broken
obligation and when it is merely unavailable*).
-/
namespace Mq

/-- **`WriteTo` and `width` of all 15 types**, rendered from the source on every run: allocate what a dry `fill` from
offset 0 measures, fill from offset 0, hand the buffer to the writer in one `Write`, return its count and its error;
`width()` — the `N bytes` of `String()` — is that same measurement; `Undefined` alone returns 0 and an error without
touching the writer. This is the function `Mq.writeTo` (C10's theorems) models -/
theorem C10_writeTo_shape_from_source :
    (Gen.writeToShapes.length = 15
      ∧ (∀ k : Fin 15, (Gen.writeToShapes.find? fun e => e.1 == Packet.kindName (k.val + 1)).map (·.2) = some (0, 0, 0)))
    ∧ Gen.writeToRefuses = [Packet.kindName 0] :=
  ⟨Tie.WriteTo.shapes, Tie.WriteTo.refuses⟩

end Mq
