import Proofs.Tie.Stream
import Props.C01
/-!
# Props.Src.EndToEndRT — C01 stated about the `ReadPacket` translated from the source

As `Props/Src/EndToEnd.lean`, kept apart because `Props.C01` rests on `Props.C02` and `Props.C03`.
Built by a check only when the `Stream` family was rendered completely.
-/
namespace Mq

/-- **C01 for the translated `ReadPacket`**: on the bytes `WriteTo` produced for a packet of the C01 domain — under any
reader schedule, followed by anything — it returns the packet that was written and consumes exactly the frame -/
theorem C01_roundtrip_from_source (p : Packet) (h : p.InDomainL) (bs : Bytes) (he : p.encode = .bytes bs)
    (r : Reader) (rest : Bytes) (hd : r.data = bs ++ rest) :
    (Gen.readPacket r).1 = .pkt p ∧ (Gen.readPacket r).2.data = rest := by
  rw [Tie.Stream.readPacket_eq]; exact C01_roundtrip p h bs he r rest hd

end Mq
