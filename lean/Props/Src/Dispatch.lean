import Proofs.Tie.Dispatch
/-!
# Props.Src.Dispatch — the dispatch of the model is the translated type switch (serves C03, C16)

Built by a check only when the translator rendered the family completely (DESIGN.md, *when a source tie is a broken
obligation and when it is merely unavailable*).
-/
namespace Mq

/-- **the dispatch these theorems are about is the switch in /repo's source**, translated on every run -/
theorem C16_dispatch_from_source (b0 : UInt8) : Gen.dispatch b0 = Packet.dispatch b0 := Tie.Dispatch.dispatch_eq b0

end Mq
