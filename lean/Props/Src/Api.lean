import Proofs.Tie.Api
/-!
# Props.Src.Api — the API model and the accessor view are the translated source (serves C12)

Built by a check only when the translator rendered the family completely (DESIGN.md, *when a source tie is a broken
obligation and when it is merely unavailable*).
-/
namespace Mq

/-- **the API these theorems are about is the one in /repo's source**: every exported `Set…`/`Add…`
method of every packet type, translated statement by statement on every run
(`Mq/Generated/Api.lean`), is the hand-written `apply` of `Mq/Ops.lean`, for every call -/
theorem C12_api_from_source :
    (∀ p op, Gen.Connect.api p op = p.apply op) ∧ (∀ p op, Gen.ConnAck.api p op = p.apply op)
    ∧ (∀ p op, Gen.Publish.api p op = p.apply op) ∧ (∀ p op, Gen.PubAck.api p op = p.apply op)
    ∧ (∀ p op, Gen.PubRec.api p op = p.apply op) ∧ (∀ p op, Gen.PubRel.api p op = p.apply op)
    ∧ (∀ p op, Gen.PubComp.api p op = p.apply op) ∧ (∀ p op, Gen.Subscribe.api p op = p.apply op)
    ∧ (∀ p op, Gen.SubAck.api p op = p.apply op) ∧ (∀ p op, Gen.Unsubscribe.api p op = p.apply op)
    ∧ (∀ p op, Gen.UnsubAck.api p op = p.apply op) ∧ (∀ p op, Gen.Disconnect.api p op = p.apply op)
    ∧ (∀ p op, Gen.Auth.api p op = p.apply op)
    ∧ Gen.untranslatedSetters = [] ∧ Gen.unmodelledSetters = [] ∧ Gen.untranslatedAccessors = [] :=
  ⟨Tie.Api.connect_api, Tie.Api.connAck_api, Tie.Api.publish_api, Tie.Api.pubAck_api, Tie.Api.pubRec_api,
   Tie.Api.pubRel_api, Tie.Api.pubComp_api, Tie.Api.subscribe_api, Tie.Api.subAck_api, Tie.Api.unsubscribe_api,
   Tie.Api.unsubAck_api, Tie.Api.disconnect_api, Tie.Api.auth_api, Tie.Api.complete.1, Tie.Api.complete.2.1, Tie.Api.complete.2.2⟩

/-- **the accessor values the theorems speak of are those of /repo's accessors**: every exported
accessor (`KeepAlive()`, `ReasonString()`, `QoS()`, …), translated from its source on every run,
is the entry of that name in the model's `view` — the observation all round-trip, decode and setter
theorems are stated over -/
theorem C12_accessors_from_source :
    (∀ (p : Connect), ∀ kv ∈ Gen.Connect.accessors p, kv ∈ p.view) ∧ (∀ (p : ConnAck), ∀ kv ∈ Gen.ConnAck.accessors p, kv ∈ p.view)
    ∧ (∀ (p : Publish), ∀ kv ∈ Gen.Publish.accessors p, kv ∈ p.view) ∧ (∀ (p : Ack), ∀ kv ∈ Gen.PubAck.accessors p, kv ∈ p.view)
    ∧ (∀ (p : Ack), ∀ kv ∈ Gen.PubRec.accessors p, kv ∈ p.view) ∧ (∀ (p : Ack), ∀ kv ∈ Gen.PubRel.accessors p, kv ∈ p.view)
    ∧ (∀ (p : Ack), ∀ kv ∈ Gen.PubComp.accessors p, kv ∈ p.view) ∧ (∀ (p : Subscribe), ∀ kv ∈ Gen.Subscribe.accessors p, kv ∈ p.view)
    ∧ (∀ (p : SubAck), ∀ kv ∈ Gen.SubAck.accessors p, kv ∈ p.view) ∧ (∀ (p : Unsubscribe), ∀ kv ∈ Gen.Unsubscribe.accessors p, kv ∈ p.view)
    ∧ (∀ (p : SubAck), ∀ kv ∈ Gen.UnsubAck.accessors p, kv ∈ p.view) ∧ (∀ (p : Disconnect), ∀ kv ∈ Gen.Disconnect.accessors p, kv ∈ p.view)
    ∧ (∀ (p : Auth), ∀ kv ∈ Gen.Auth.accessors p, kv ∈ p.view) ∧ (∀ (p : Undefined), ∀ kv ∈ Gen.Undefined.accessors p, kv ∈ p.view) :=
  ⟨Tie.Api.connect_accessors, Tie.Api.connAck_accessors, Tie.Api.publish_accessors, Tie.Api.pubAck_accessors,
   Tie.Api.pubRec_accessors, Tie.Api.pubRel_accessors, Tie.Api.pubComp_accessors, Tie.Api.subscribe_accessors,
   Tie.Api.subAck_accessors, Tie.Api.unsubscribe_accessors, Tie.Api.unsubAck_accessors, Tie.Api.disconnect_accessors,
   Tie.Api.auth_accessors, Tie.Api.undefined_accessors⟩

end Mq
