import Proofs.Tie.Buffer
import Proofs.Buf
/-!
# Props.Src.Buffer — the cursor of the model is the cursor of the source (serves C03, C04, C05, C09)

`buffer.go` — `get`, `atEnd`, the property loop `getAny` — is rendered on every run over the representation the Go code
has (the whole data, the offset `i`, the first error), with the comparison operators of its guards, the end of the
property section and the identifiers of the list-valued properties taken from the source. The model keeps only the
unread rest of the data. These theorems say that nothing is lost by that: started on a fresh buffer, the rendered source
and the model's cursor go through the same statuses, decode the same values and leave the same bytes unread, for every
data, every wire decoder and every property table.

Built by a check only when the translator rendered the family completely (DESIGN.md, *when a source tie is a broken
obligation and when it is merely unavailable*).
-/
namespace Mq
open Mq.Gen Mq.Tie.Buffer

/-- a fresh buffer (`&buffer{data: data}`) satisfies the invariant and is the model's fresh cursor -/
theorem C04_buffer_fresh_from_source (data : Bytes) :
    Inv { data := data, i := 0 } ∧ abs { data := data, i := 0 } = { rest := data } :=
  ⟨inv_fresh data, abs_fresh data⟩

/-- **`buffer.get`**: for every state with the offset inside the data, every wire decoder and every destination, the
rendered source returns the model's value and status, leaves the model's unread bytes, keeps the offset inside the data
(so `b.data[b.i:]` never panics) and never moves it back -/
theorem C04_buffer_get_from_source {α} (b : IBuf) (h : Inv b) (dec : Dec α) (old : α) :
    abs (b.get dec old).1 = ((abs b).get dec old).1 ∧ (b.get dec old).2 = ((abs b).get dec old).2
    ∧ Inv (b.get dec old).1 ∧ (b.get dec old).1.data = b.data ∧ b.i ≤ (b.get dec old).1.i :=
  get_refines b h dec old

/-- **`buffer.atEnd`** is the model's test that no byte is left unread -/
theorem C05_buffer_atEnd_from_source (b : IBuf) (h : Inv b) : b.atEnd = decide ((abs b).rest = []) :=
  atEnd_eq b h

/-- **`buffer.getAny`**: the property loop of the source — `end := b.i + int(propLen)`, `for b.i < end`, table lookup,
user property, subscription identifier, unknown identifier — returns the model's occurrences in the model's order with
the model's status and unread bytes, for every property table and every data -/
theorem C05_buffer_getAny_from_source (b : IBuf) (h : Inv b) (tbl : PropTable)
    (oldOf : UInt8 → List PropOcc → Bytes) :
    abs (b.getAny tbl oldOf).1 = ((abs b).getAny tbl oldOf).1 ∧ (b.getAny tbl oldOf).2 = ((abs b).getAny tbl oldOf).2
    ∧ Inv (b.getAny tbl oldOf).1 ∧ (b.getAny tbl oldOf).1.data.length = b.data.length :=
  getAny_refines b h tbl oldOf

/-- **C04/C05 read off the translated source.** Started anywhere inside the data with no panic or hang behind it, the
cursor of /repo's `buffer.go` — rendered with its own guards, its slice expression `b.data[b.i:]` an explicit panic
branch — introduces neither: `get` for every wire decoder that does not panic on a non-empty slice (all of them,
`C04_wire_decoders`) -/
theorem C04_buffer_safe_from_source {α} (b : IBuf) (h : Inv b) (hs : b.st ≠ .panic ∧ b.st ≠ .hang)
    (dec : Dec α) (old : α) (hd : ∀ d, d ≠ [] → dec d ≠ .panic) :
    (b.get dec old).1.st ≠ .panic ∧ (b.get dec old).1.st ≠ .hang := by
  have e := (get_refines b h dec old).1
  have hm : ((abs b).get dec old).1.Safe := get_safe (abs b) dec old hs hd
  rw [← e] at hm
  exact hm

/-- The same for `getAny`, for every property table; its loop ends within the fuel of one iteration per unread byte, and
records at most one property per byte it consumes -/
theorem C05_buffer_getAny_safe_from_source (b : IBuf) (h : Inv b) (hs : b.st ≠ .panic ∧ b.st ≠ .hang)
    (tbl : PropTable) (oldOf : UInt8 → List PropOcc → Bytes) :
    ((b.getAny tbl oldOf).1.st ≠ .panic ∧ (b.getAny tbl oldOf).1.st ≠ .hang)
    ∧ (b.getAny tbl oldOf).2.length + ((b.getAny tbl oldOf).1.data.length - (b.getAny tbl oldOf).1.i)
        ≤ b.data.length - b.i := by
  obtain ⟨e1, e2, _⟩ := getAny_refines b h tbl oldOf
  have hm := getAny_safe (abs b) tbl oldOf hs
  rw [← e1, ← e2, rest_length, rest_length] at hm
  exact hm

/-- **a fact about the source that the reason-code slice depends on.** `SubAck.UnmarshalBinary` and
`UnsubAck.UnmarshalBinary` size their reason-code slice with `make([]uint8, len(data)-b.i)` after
`b.get(&p.packetID)` and `b.getAny(…)`; a negative size is a run-time panic (defect D13: a repeated, second-time-empty
reason string). For the cursor of /repo — rendered with its own guards — the offset after those two calls is inside
the data whatever the data and the property table, and the data has not changed length: the size is never negative -/
theorem C04_reason_code_slice_size_from_source (data : Bytes) (tbl : PropTable)
    (oldOf : UInt8 → List PropOcc → Bytes) :
    ((({ data := data, i := 0 } : IBuf).get decU16 0).1.getAny tbl oldOf).1.i
      ≤ ((({ data := data, i := 0 } : IBuf).get decU16 0).1.getAny tbl oldOf).1.data.length
    ∧ ((({ data := data, i := 0 } : IBuf).get decU16 0).1.getAny tbl oldOf).1.data.length = data.length := by
  have g := get_refines ({ data := data, i := 0 } : IBuf) (inv_fresh data) decU16 0
  have ga := getAny_refines (({ data := data, i := 0 } : IBuf).get decU16 0).1 g.2.2.1 tbl oldOf
  refine ⟨ga.2.2.1, ?_⟩
  rw [ga.2.2.2, g.2.2.2.1]

/-- not vacuous: the D13 input, a reason string given twice, the second time empty, run through the rendered source -/
example :
    Inv { data := [0x00, 0x01, 0x09, 0x1f, 0x00, 0x03, 0x61, 0x62, 0x63, 0x1f, 0x00, 0x00], i := 2 }
    ∧ (({ data := [0x00, 0x01, 0x09, 0x1f, 0x00, 0x03, 0x61, 0x62, 0x63, 0x1f, 0x00, 0x00], i := 2 } : IBuf).getAny
        [(0x1f, .bin)] (lastBin fun _ => [])).1.st = .err .missing :=
  ⟨by unfold Tie.Buffer.Inv; decide, by decide +kernel⟩

end Mq
