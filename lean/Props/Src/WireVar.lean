import Proofs.Tie.WireVar
/-!
# Props.Src.WireVar — strings, binary data and user properties decode as the translated source does (serves C03, C04, C09)

Built by a check only when the translator rendered the family completely (DESIGN.md, *when a source tie is a broken
obligation and when it is merely unavailable*).
-/
namespace Mq

/-- **the decoders of every string, binary field and user property**, rendered from /repo's `wiretypes.go` on every
run, are the model's: `bindata.UnmarshalBinary` (the length prefix read with its error dropped, the guard
`len(data) < int(length)+2` with its comparison operator and constant, the zero-length case that leaves the destination
— and therefore the width the cursor advances by — alone, `make` + `copy(data[2:int(length)+2])`), and
`UserProp.UnmarshalBinary` (key, the value starting at `len(key)+2`, the width), `rawdata.UnmarshalBinary` (the PUBLISH
payload: a copy of all that is left) -/
theorem C09_wire_decoders_from_source :
    (∀ old, Gen.bindata.dec old = decBin old) ∧ Gen.UserProp.dec = decPair ∧ Gen.rawdata.dec = decRaw
    ∧ Gen.UserProp.errTests = true :=
  ⟨Tie.WireVar.bindata_dec, Tie.WireVar.userProp_dec, Tie.WireVar.rawdata_dec, Tie.WireVar.userProp_errTests⟩

/-- `UserProp.fill` is the model's filler, and **`UserProperties.properties`** — the method every `properties`
calls after the type's own properties (only PUBLISH's subscription identifiers come later): the pairs in order, each
through `UserProp.fillProp` (nothing for an empty key, else the identifier `UserProperty` and the pair) — is the
model's `fillUserProps` -/
theorem C02_userProp_fill_from_source :
    (∀ kv : Bytes × Bytes, Gen.UserProp.fill kv = fillPair kv.1 kv.2)
    ∧ (∀ ups : UserProps, Gen.UserProperties.properties ups = fillUserProps ups) :=
  ⟨Tie.WireVar.userProp_fill, Tie.WireVar.userProps_fill⟩

end Mq
