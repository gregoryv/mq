import Proofs.Tie.WellFormed
/-!
# Props.Src.WellFormed — the WellFormed model is the translated source (serves C17)

Built by a check only when the translator rendered the family completely (DESIGN.md, *when a source tie is a broken
obligation and when it is merely unavailable*).
-/
namespace Mq

/-- **the `WellFormed` these theorems are about is the one in /repo's source**: the three methods,
translated condition by condition on every run, are the model's -/
theorem C17_wellFormed_from_source :
    (∀ p, Gen.Publish.wellFormed p = p.wellFormed) ∧ (∀ p, Gen.Subscribe.wellFormed p = p.wellFormed)
    ∧ (∀ f, Gen.TopicFilter.wellFormed f = f.wellFormed) ∧ Gen.untranslatedWellFormed = [] :=
  ⟨Tie.WellFormed.publish_wellFormed, Tie.WellFormed.subscribe_wellFormed, Tie.WellFormed.topicFilter_wellFormed,
   Tie.WellFormed.complete⟩

end Mq
