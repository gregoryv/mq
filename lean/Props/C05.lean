import Proofs.PacketSafe
/-!
# C05 — decoding terminates with work and memory bounded by the frame size

Termination of the model is by construction: every function of `Mq.*` is accepted by Lean's
termination checker; the three Go loops are given `rest.length + 1` (property loop) and
`len(data) + 1` (filter loops) units of fuel, one per iteration, and report `hang` if they run
out. The theorems below show that this never happens and bound what the decoders build.
-/
namespace Mq

/-- no decoder exhausts its iteration budget of (input length + 1) per loop: decoding terminates
after a number of loop iterations linear in the frame's length -/
theorem C05_terminates (p : Packet) (data : Bytes) : (p.unmarshal data).2 ≠ .hang :=
  (Packet.unmarshal_safe p data).2

theorem C05_readPacket_terminates (r : Reader) : (readPacket r).1 ≠ .hang := by
  rcases readPacket_xor r with ⟨q, h⟩ | ⟨e, h⟩ <;> rw [h] <;> simp

/-- the lists of a packet (user properties, subscription identifiers, filters, reason codes) grow
by at most one element per input byte, plus the one element a filter loop was reading when it
stopped on an error -/
theorem C05_list_growth (p : Packet) (data : Bytes) :
    (p.unmarshal data).1.elems ≤ p.elems + data.length + 1 :=
  Packet.unmarshal_elems p data

/-- a packet decoded by ReadPacket from a frame with first byte `b0` and body `data` holds at
most `len(data) + 1` list elements — fewer than the frame has bytes (`len(data) + 2` or more) -/
theorem C05_elements_below_frame (b0 : UInt8) (data : Bytes) :
    ((Packet.dispatch b0).unmarshal data).1.elems < 1 + (encVb data.length).length + data.length := by
  have := Packet.unmarshal_elems (Packet.dispatch b0) data
  rw [Packet.dispatch_elems] at this
  have := encVb_length_pos data.length
  omega

/-- every successful `get` consumes at least one byte, so the property loop performs at most
`rest.length` successful reads -/
theorem C05_loop_progress (tbl : PropTable) (oldOf : UInt8 → List PropOcc → Bytes) (b : Buf) (h : b.Safe) :
    (b.getAny tbl oldOf).2.length + (b.getAny tbl oldOf).1.rest.length ≤ b.rest.length :=
  (getAny_safe b tbl oldOf h).2

/-- non-vacuity: the eight bytes `82 06 00 01 00 00 05 61`, which made the SUBSCRIBE filter loop
spin and allocate forever, are rejected after one iteration -/
example : (readPacket (Reader.contig [0x82, 0x06, 0x00, 0x01, 0x00, 0x00, 0x05, 0x61])).1 = .err .missing := by
  decide

end Mq
