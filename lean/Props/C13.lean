import Mq.Effects
import Proofs.Tie.ReadOnly
import Proofs.Tie.ReadPacket
import Proofs.Tie.Globals
/-!
# C13 — read-only operations on a shared packet are safe to run concurrently

Proved: race-freedom and sequential results for **any** program whose effect summary is confined
(`C13_confined_no_race`, `C13_shared_constant`, `C13_reads_initial`), and that the effect summary
regenerated from /repo's current source is confined (`C13_mq_confined`, over `Mq.Generated.Facts`).
Not proved (trusted, see DESIGN.md): that the SSA classification in `/verif/extract` is sound, and
the Go memory model. The race detector run of the check supports this; it is not a proof.
-/
namespace Mq
open Effects

/-- in every interleaving of goroutines whose writes are confined to their own private memory there
is no data race -/
theorem C13_confined_no_race (e : Exec) (hc : Confined e) (ho : OwnPriv e) :
    ∀ a ∈ e, ∀ b ∈ e, ¬ Race a b := by
  -- a written location is private to its writer, and to whoever else touches it
  have key : ∀ a ∈ e, ∀ b ∈ e, a.loc = b.loc → a.write = true → a.tid = b.tid := fun a ha b hb hloc hw =>
    let ⟨t, n, hl⟩ := hc a ha hw
    (ho a ha t n hl).trans (ho b hb t n (hloc ▸ hl)).symm
  intro a ha b hb ⟨hne, hloc, hw⟩
  exact hw.elim (fun hw => hne (key a ha b hb hloc hw)) fun hw => hne (key b hb a ha hloc.symm hw).symm

/-- … the shared memory is the same after any prefix of any interleaving as at the start … -/
theorem C13_shared_constant (e : Exec) (hc : Confined e) (m : Mem) : (e.foldl Mem.step m).shared = m.shared := by
  induction e generalizing m with
  | nil => rfl
  | cons a e ih =>
    simp only [List.foldl_cons]
    rw [ih (fun x hx => hc x (List.mem_cons_of_mem _ hx))]
    unfold Mem.step
    by_cases hw : a.write = true
    · obtain ⟨t, n, hl⟩ := hc a (List.mem_cons_self) hw
      simp [hw, hl]
    · simp [hw]

/-- … so every read of shared memory, at any point of any interleaving, returns the initial value:
each operation computes what it computes when run alone — in particular `WriteTo` its bytes -/
theorem C13_reads_initial (pre post : Exec) (a : Access) (hc : Confined (pre ++ a :: post)) (m : Mem) (n : Nat)
    (hl : a.loc = .shared n) : (pre.foldl Mem.step m).read a.loc = m.read a.loc := by
  have hpre : Confined pre := fun x hx => hc x (List.mem_append_left _ hx)
  rw [hl]; simp only [Mem.read]
  rw [C13_shared_constant pre hpre]

/-- the effect summary of gregoryv/mq regenerated from the working tree is confined: no read-only
operation (`WriteTo`, `String`, `Dump`, `WellFormed`, every accessor, the constructors) and not
`ReadPacket` writes to the receiver, to another argument, or through a package-level variable.
`T5_roots` checks that the roots analysed include `WriteTo` and `String` of every type, `Dump`, `WellFormed`, the
accessors `Will`, `Password`, `Payload` and `ReadPacket`; for the other accessors and the constructors the list
`Facts.readOnlyOps` is the extractor's word -/
theorem C13_mq_confined :
    Facts.readOnlyWrites = [] ∧ Facts.readPacketWrites = [] ∧ Facts.globalWrites = []
    ∧ Facts.neverAssigned.contains "_LEN" = true :=
  ⟨Tie.T5_read_only, Tie.T5_read_packet, Tie.T5_globals.1, Tie.T5_globals.2⟩

/-- non-vacuity: two goroutines reading the same shared field while each writes its own buffer is a
confined execution, and it is not trivially race-free by having a single thread -/
example :
    let e : Exec := [⟨1, .shared 0, false, 0⟩, ⟨2, .shared 0, false, 0⟩, ⟨1, .priv 1 0, true, 7⟩, ⟨2, .priv 2 0, true, 7⟩]
    Confined e ∧ OwnPriv e := by
  constructor
  · intro a ha hw
    simp only [List.mem_cons, List.mem_nil_iff, or_false] at ha
    rcases ha with rfl | rfl | rfl | rfl <;> simp_all
  · intro a ha t n hl
    simp only [List.mem_cons, List.mem_nil_iff, or_false] at ha
    rcases ha with rfl | rfl | rfl | rfl <;> simp_all

/-- and a shared write is what breaks it: the theorem's hypothesis is not satisfiable then -/
example : ¬ Confined [⟨1, .shared 0, true, 1⟩] := by
  intro h
  obtain ⟨t, n, hl⟩ := h _ (List.mem_cons_self) rfl
  cases hl

end Mq
