import Proofs.RenderShape
/-!
# C17 — WellFormed decides exactly the documented rules and String agrees with it
-/
namespace Mq

/-- `Publish.WellFormed` reports an error exactly when the topic name is empty and no topic alias
is set, or QoS is 1 or 2 with packet identifier 0, or both QoS bits are set -/
theorem C17_publish (p : Publish) :
    p.wellFormed.isSome ↔
      (p.topicName = [] ∧ p.topicAlias = 0) ∨ ((p.qos = 1 ∨ p.qos = 2) ∧ p.packetID = 0) ∨ p.qos = 3 := by
  -- an if-chain of `some …` ending in `none` is `some` exactly when one of its conditions holds
  simp only [Publish.wellFormed, apply_ite Option.isSome, Option.isSome_some, Option.isSome_none, Bool.if_true_left,
    Bool.or_eq_true, decide_eq_true_eq, Bool.or_false, List.length_eq_zero_iff]

/-- `TopicFilter.WellFormed`: error exactly when the filter is empty or QoS 3 is requested -/
theorem C17_filter (f : TopicFilter) :
    f.wellFormed.isSome ↔ f.filter = [] ∨ has f.options 3 = true := by
  simp only [TopicFilter.wellFormed, apply_ite Option.isSome, Option.isSome_some, Option.isSome_none, Bool.if_true_left,
    Bool.or_eq_true, decide_eq_true_eq, Bool.or_false, List.length_eq_zero_iff]

/-- `Subscribe.WellFormed`: error exactly when there is no filter, the subscription identifier
exceeds 268 435 455, or some filter is not well formed -/
theorem C17_subscribe (s : Subscribe) :
    s.wellFormed.isSome ↔
      s.filters = [] ∨ (∃ v, s.subscriptionID = some v ∧ v > 268435455) ∨ ∃ f ∈ s.filters, f.wellFormed.isSome := by
  simp only [Subscribe.wellFormed, apply_ite Option.isSome, Option.isSome_some, Bool.if_true_left,
    Bool.or_eq_true, decide_eq_true_eq, List.length_eq_zero_iff,
    List.findSome?_isSome_iff, Option.any_eq_true]

/-- `String()` of a PUBLISH is its plain rendering followed by the 'malformed!' suffix, and the
suffix is present exactly when `WellFormed` reports an error -/
theorem C17_string_publish (p : Publish) :
    ∃ base, (Packet.publish p).string = .ok (base ++ malformedSuffix p.wellFormed)
      ∧ (malformedSuffix p.wellFormed = [] ↔ p.wellFormed = none) := by
  simp only [Packet.string, withForm_eq]
  exact ⟨_, rfl, malformedSuffix_nil _⟩

theorem C17_string_subscribe (s : Subscribe) :
    ∃ base, (Packet.subscribe s).string = .ok (base ++ malformedSuffix s.wellFormed)
      ∧ (malformedSuffix s.wellFormed = [] ↔ s.wellFormed = none) := by
  simp only [Packet.string, withForm_eq]
  exact ⟨_, rfl, malformedSuffix_nil _⟩

/-- non-vacuity, both sides of the alias rule: empty topic with an alias is well formed; without, not -/
example : ({ topicAlias := 5 } : Publish).wellFormed = none ∧ ({} : Publish).wellFormed = some ("topic name", "empty") := by
  decide

end Mq
