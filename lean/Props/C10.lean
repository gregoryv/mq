import Proofs.FillPackets
import Proofs.Fixed
import Proofs.RenderInv
import Proofs.RenderShape
import Mq.Stream
/-!
# C10 — WriteTo emits one complete frame and reports its size truthfully

The model of `WriteTo` (`writeTo`, Mq/Stream.lean) runs the Go-shaped two-pass encoder of `Mq.Fill`:
a dry run `fill(_LEN, 0)` for the size, `fill` again into a buffer of that size, one `Write`.
`Packet.encode` (list append) is the reference the two passes are proved to agree with.
-/
namespace Mq

/-- **dry run and real pass agree, for every packet**: the buffer `WriteTo` builds is `encode p`,
and `width()` (what `String()` prints, what `make` allocates) is its length — for API-built,
malformed-but-constructible and decoded packets alike (no hypothesis on `p`) -/
theorem C10_two_pass (p : Packet) : p.encodeG = p.encode ∧ p.widthG = sizeOf? p.encode :=
  p.two_pass

/-- a frame: first byte, remaining length, that many bytes -/
theorem C10_frame_shape (p : Packet) (bs : Bytes) (h : p.encode = .bytes bs) :
    ∃ body, bs = p.fixed :: (encVb body.length ++ body)
      ∧ bs.length = 1 + (encVb body.length).length + body.length := by
  obtain ⟨body, rfl⟩ := p.encode_frame bs h
  exact ⟨body, rfl, by simp [frame]; omega⟩

/-- **WriteTo, any writer**: exactly one `Write`, offered the whole frame and nothing else; the
returned count and error are the writer's own — so a writer that accepts only `k` bytes and reports
an error yields `(k, that error)`, one that fails before writing `(0, that error)`, one that
succeeds `(frame length, nil)` -/
theorem C10_writeTo (p : Packet) (bs : Bytes) (h : p.encode = .bytes bs) (w : Writer) :
    (writeTo p w).calls = [bs] ∧ (writeTo p w).n = (w.write bs).1 ∧ (writeTo p w).err = (w.write bs).2
      ∧ (writeTo p w).panicked = false := by
  simp [writeTo, Packet.encodeG_eq, h]

/-- the count on success is the frame length = 1 + size of the remaining-length field + remaining length -/
theorem C10_count (p : Packet) (bs : Bytes) (h : p.encode = .bytes bs) :
    (writeTo p {}).n = bs.length ∧ (writeTo p {}).err = none ∧ p.widthG = some bs.length := by
  simp [writeTo, Packet.encodeG_eq, Packet.widthG_eq, h, Writer.write, sizeOf?]

/-- short writes: accepting `k` bytes below the frame length returns `k` and the error -/
theorem C10_short_write (p : Packet) (bs : Bytes) (h : p.encode = .bytes bs) (k t : Nat) (hk : k < bs.length) :
    (writeTo p { accept := some k, err := some t }).n = k
      ∧ (writeTo p { accept := some k, err := some t }).err = some (.io (.custom t)) := by
  simp [writeTo, Packet.encodeG_eq, h, Writer.write]; omega

/-- `Undefined` cannot be serialised: an error and no `Write` at all -/
theorem C10_undefined (u : Undefined) (w : Writer) :
    (writeTo (.undefined u) w).calls = [] ∧ (writeTo (.undefined u) w).n = 0
      ∧ (writeTo (.undefined u) w).err = some .cannotWrite := by
  simp [writeTo, Packet.encodeG, Packet.fillG]

/-- every one of the 15 defined types does serialise, except a CONNECT with the will flag set and
no will attached (which no constructor, setter or decoder produces: `C19_total`'s invariant) -/
theorem C10_defined_types (p : Packet) (hk : p.kind ≠ 0) (hi : p.RenderInv) : ∃ bs, p.encode = .bytes bs := by
  cases p with
  | undefined q => simp [Packet.kind] at hk
  | connect q =>
    -- `encode?` is undefined exactly when the filler is (`Connect.fillG_sound`), and that the invariant excludes
    simp only [Packet.encode]
    cases he : q.encode? with
    | some e => exact ⟨e, rfl⟩
    | none => exact absurd (q.fillG_sound.1.mpr he) (q.fillG?_ne_none hi)
  | _ => exact ⟨_, rfl⟩

/-- **the size `String()` prints** is `width()`, the dry run of the Go-shaped filler, which is the
frame length: every `String()` of a serialisable packet has the form `… <frame length> bytes …` -/
theorem C10_string_size (p : Packet) (bs : Bytes) (h : p.encode = .bytes bs) (t : Bytes) (ht : p.string = .ok t) :
    p.widthG = some bs.length ∧ ∃ pre suf, t = pre ++ (decStr bs.length ++ b!" bytes") ++ suf := by
  have hw : p.widthG = some bs.length := by rw [Packet.widthG_eq, h]; rfl
  refine ⟨hw, ?_⟩
  -- with the width a variable, `hw` says which number each branch of `Packet.string` prints
  generalize bs.length = n at hw
  cases p
  case undefined => cases hw
  case connect q =>
    simp only [Packet.widthG, Packet.fillG] at hw
    simp only [Packet.string] at ht
    cases hf : q.fillG? <;> simp only [hf, reduceCtorEq, Rend.ok.injEq, Option.some.injEq] at hw ht
    subst hw ht
    exact ⟨_, [], (List.append_nil _).symm⟩
  -- the other types print the dry run of their own filler, behind `withReason`, `withForm`, a reason code, or plainly
  all_goals
    obtain rfl := Option.some.inj hw
    simp only [Packet.string] at ht
  case connack | puback | pubrel | disconnect =>
    obtain ⟨suf, hs⟩ := withReason_shape _ _ _ _ ht
    exact ⟨_, suf, hs⟩
  case publish | subscribe => exact ⟨_, _, (Rend.ok.inj ht).symm.trans (withForm_eq _ _)⟩
  case pubrec | pubcomp =>
    obtain ⟨cs, -, ht⟩ := bind_eq_ok ht
    exact ⟨_, [], by rw [← Rend.ok.inj ht, List.append_nil]⟩
  all_goals exact ⟨_, [], by rw [← Rend.ok.inj ht, List.append_nil]⟩

/-- non-vacuity: a DISCONNECT whose remaining length needs two bytes (a 130-byte reason string);
frame = 1 + 2 + 136 bytes and `String()` says so -/
example :
    let p := Packet.disconnect { reasonString := List.replicate 130 0x61 }
    p.widthG = some 139 ∧ sizeOf? p.encode = some 139
    ∧ (match p.encode with | .bytes bs => bs.take 3 | _ => []) = [0xe0, 0x88, 0x01]
    ∧ p.string = .ok (b!"DISCONNECT ---- 139 bytes") := by
  decide +kernel

end Mq
