import Proofs.Setters
/-!
# C12 — setters and accessors obey last-write-wins and keep derived flags in step

The model's scalar setters are record updates `{ p with field := v }` (Mq.Ops): last-write-wins and
"fields not named are unchanged" hold by construction, and the correspondence run compares every
accessor after every step of generated histories with the Go code. The theorems below are about the
parts that are *derived*: flag bytes maintained by bit operations.
-/
namespace Mq

/-- **CONNECT flags follow the values, over every setter history** from `NewConnect()`:
user-name and password flags are set exactly when the value is non-empty; the will flag is set
exactly when a will is attached; will QoS and will retain mirror the message passed to the last
`SetWill`; the reserved bit stays clear. -/
theorem C12_connect_flags (ops : List SetOp) (q : Connect) (h : Connect.new.applyAll ops = some q) :
    has q.flags 128 = decide (q.username ≠ []) ∧ has q.flags 64 = decide (q.password ≠ [])
      ∧ has q.flags 4 = q.will.isSome ∧ has q.flags 1 = false
      ∧ ∀ w, q.will = some w → has q.flags 32 = w.retain ∧ q.willQoS = (if w.qos.toNat < 3 then w.qos else 0) :=
  let i := Connect.applyAll_inv ops Connect.new q h Connect.new_inv
  ⟨i.user, i.pass, i.will, i.reserved, i.mirror⟩

/-- one step: any single setter call preserves that relation (so it also holds for packets that
were decoded and then modified, whenever it held before) -/
theorem C12_connect_step (p q : Connect) (op : SetOp) (h : p.apply op = some q) (hi : p.FlagsInv) : q.FlagsInv :=
  Connect.apply_inv p q op h hi

/-- CleanStart is last-write-wins, including the transition back to false -/
theorem C12_clean_start (p : Connect) (v : Bool) : has (p.setCleanStart v).flags Connect.fCleanStart = v :=
  has_toggle_self p.flags 2 v (by decide)

/-- CONNACK's session-present flag equals the last value set — both truth values -/
theorem C12_session_present (p : ConnAck) (v : Bool) : (p.setSessionPresent v).sessionPresent = v :=
  has_toggle_self p.flags 1 v (by decide)

/-- … and no other CONNACK flag bit is touched -/
theorem C12_session_present_frame (p : ConnAck) (v : Bool) (m : UInt8) (hm : m ∈ flagMasks) (hne : m ≠ 1) :
    has (p.setSessionPresent v).flags m = has p.flags m :=
  has_toggle_of_disjoint p.flags 1 m v (flagMasks_disjoint 1 (by decide) m hm (Ne.symm hne))

/-- PUBLISH: DUP and RETAIN are last-write-wins and disturb neither each other, nor QoS, nor the type nibble -/
theorem C12_publish_dup_retain (p : Publish) (v : Bool) :
    (p.setDuplicate v).duplicate = v ∧ (p.setDuplicate v).retain = p.retain ∧ (p.setDuplicate v).qos = p.qos
    ∧ (p.setRetain v).retain = v ∧ (p.setRetain v).duplicate = p.duplicate ∧ (p.setRetain v).qos = p.qos
    ∧ (p.setDuplicate v).fixed &&& 0xf0 = p.fixed &&& 0xf0 ∧ (p.setRetain v).fixed &&& 0xf0 = p.fixed &&& 0xf0 :=
  ⟨has_toggle_self _ 8 v (by decide), has_toggle_of_disjoint _ 8 1 v rfl, p.setDuplicate_qos v,
    has_toggle_self _ 1 v (by decide), has_toggle_of_disjoint _ 1 8 v rfl, p.setRetain_qos v,
    toggle_and _ 8 0xf0 v rfl, toggle_and _ 1 0xf0 v rfl⟩

/-- PUBLISH: `SetQoS(v)` makes `QoS()` return `v` for 0…3 (any other value clears the bits) and
leaves DUP, RETAIN and the type nibble alone -/
theorem C12_publish_qos (p : Publish) (v : UInt8) :
    (p.setQoS v).qos = (if v.toNat ≤ 3 then v else 0)
    ∧ (p.setQoS v).duplicate = p.duplicate ∧ (p.setQoS v).retain = p.retain
    ∧ (p.setQoS v).fixed &&& 0xf0 = p.fixed &&& 0xf0 :=
  ⟨Publish.setQoS_qos p v, has_congr (Publish.setQoS_and p v 8 rfl), has_congr (Publish.setQoS_and p v 1 rfl),
    Publish.setQoS_and p v 0xf0 rfl⟩

/-- non-vacuity: a history with a will, credentials set and reset, and the clean-start flag toggled -/
example :
    let w : Publish := (Publish.new.setQoS 2).setRetain true
    let ops : List SetOp := [.setUsername [0x75], .setPassword [0x70], .setWill w, .setCleanStart true,
                             .setUsername [], .setCleanStart false, .setKeepAlive 7]
    (Connect.new.applyAll ops).map (fun q => (q.flags, q.keepAlive)) = some (0x74, 7) := by decide

end Mq
