import Proofs.Fixed
/-!
# C16 — packet type dispatch follows the first byte and header flags are preserved
-/
namespace Mq

/-- for each of the 256 first bytes the packet type is the one selected by the upper four bits,
and (types 1–15) the packet keeps the whole byte, lower four bits included -/
theorem C16_dispatch (b : UInt8) :
    (Packet.dispatch b).kind = (b >>> 4).toNat ∧ ((b >>> 4).toNat ≠ 0 → (Packet.dispatch b).fixed = b) :=
  Packet.dispatch_kind_fixed b

/-- the type and the first byte survive decoding: for every frame that ReadPacket accepts, the
returned packet has the type selected by the first byte and (types 1–15) still carries that byte -/
theorem C16_decoded (b0 : UInt8) (body : Bytes) (q : Packet) (h : frameOutcome b0 body = .pkt q) :
    q.kind = (b0 >>> 4).toNat ∧ ((b0 >>> 4).toNat ≠ 0 → q.fixed = b0) :=
  frameOutcome_kind_fixed h

/-- type 0 yields Undefined carrying the frame's bytes -/
theorem C16_undefined (b0 : UInt8) (h : (b0 >>> 4).toNat = 0) (body : Bytes) (hb : body ≠ []) :
    frameOutcome b0 body = .pkt (.undefined { data := body }) := by
  have hd : Packet.dispatch b0 = .undefined {} := by
    unfold Packet.dispatch; rw [h]; rfl
  have hl : body.length ≠ 0 := by
    intro h0; exact hb (List.eq_nil_of_length_eq_zero h0)
  simp [frameOutcome, hd, hl, Packet.unmarshal, Undefined.unmarshal]

/-- a PUBLISH reports DUP (bit 3), QoS (bits 2–1) and RETAIN (bit 0) of the first byte it carries -/
theorem C16_publish_flags (p : Publish) :
    p.duplicate = (p.fixed &&& 8 != 0) ∧ p.retain = (p.fixed &&& 1 != 0) ∧ p.qos = (p.fixed >>> 1) &&& 3 := by
  -- the three accessors look at the first byte only
  have h : ∀ b : UInt8, let q : Publish := { fixed := b }
      q.duplicate = (b &&& 8 != 0) ∧ q.retain = (b &&& 1 != 0) ∧ q.qos = (b >>> 1) &&& 3 :=
    fun b => UInt8.forall_of_fin b (by decide +kernel)
  exact h p.fixed

/-- writing a packet reproduces its first byte: whatever WriteTo emits starts with it -/
theorem C16_first_byte_back (b0 : UInt8) (body : Bytes) (q : Packet) (h : frameOutcome b0 body = .pkt q)
    (hne : (b0 >>> 4).toNat ≠ 0) (bs : Bytes) (he : q.encode = .bytes bs) : bs.head? = some b0 := by
  rw [Packet.encode_head q bs he, (C16_decoded b0 body q h).2 hne]

/-- non-vacuity of `C16_decoded` and `C16_first_byte_back`: a PUBLISH with DUP, QoS 1 and RETAIN (first byte `3b`) is
accepted, and written back with that byte -/
example : frameOutcome 0x3b [0x00, 0x01, 0x61, 0x00, 0x07, 0x00] =
    .pkt (.publish { fixed := 0x3b, topicName := [0x61], packetID := 7 }) := by decide
example : (Packet.publish { fixed := 0x3b, topicName := [0x61], packetID := 7 }).encode
    = .bytes [0x3b, 0x06, 0x00, 0x01, 0x61, 0x00, 0x07, 0x00] := by decide

end Mq
