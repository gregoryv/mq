import Proofs.FrameRead
/-!
# C06 — ReadPacket consumes exactly one frame from the stream

`frameBytes b0 body` is a frame: first byte, minimal remaining length, body. `frameOutcome b0 body`
is what ReadPacket returns for it (packet or rejection) — a function of the frame's bytes only.
-/
namespace Mq

/-- A call that finds a complete frame at the head of the stream — whatever follows it, however
the bytes are delivered — consumes exactly the frame's `1 + |remaining length| + remaining length`
bytes, both when it returns a packet and when it rejects the content, and its result depends on
those bytes only. -/
theorem C06_consumed (r : Reader) (b0 : UInt8) (body rest : Bytes) (hn : body.length < 268435456)
    (hd : r.data = frameBytes b0 body ++ rest) :
    (readPacket r).2.data = rest
      ∧ r.data.length - (readPacket r).2.data.length = 1 + (encVb body.length).length + body.length
      ∧ (readPacket r).1 = frameOutcome b0 body := by
  have h := readPacket_frame r b0 body rest hn hd
  refine ⟨h.2, ?_, h.1⟩
  rw [h.2, hd, List.length_append, frameBytes_length]
  omega

/-- Any concatenation of frames is returned packet by packet, in order, by successive calls;
bytes after the frames are never touched or interpreted. -/
theorem C06_sequence (fs : List (UInt8 × Bytes)) (tail : Bytes) (r : Reader)
    (hall : ∀ f ∈ fs, f.2.length < 268435456)
    (hd : r.data = fs.flatMap (fun f => frameBytes f.1 f.2) ++ tail) :
    (readAll fs.length r).1 = fs.map (fun f => frameOutcome f.1 f.2)
      ∧ (readAll fs.length r).2.data = tail :=
  let h := readAll_frames fs r tail hall hd
  ⟨h.1, h.2.1⟩

/-- … followed by io.EOF when the stream ends after the last frame. -/
theorem C06_then_eof (fs : List (UInt8 × Bytes)) (r : Reader) (hall : ∀ f ∈ fs, f.2.length < 268435456)
    (hd : r.data = fs.flatMap (fun f => frameBytes f.1 f.2)) (hf : r.fail = .eof) :
    ∃ e, (readPacket (readAll fs.length r).2).1 = .err e ∧ e.is .eof = true := by
  have h := readAll_frames fs r [] hall (by simpa using hd)
  exact ⟨_, readPacket_nil _ h.2.1, by rw [h.2.2, hf]; rfl⟩

/-- a frame of remaining length 0 is a frame like any other: two bytes consumed -/
theorem C06_zero_length (r : Reader) (b0 : UInt8) (rest : Bytes) (hd : r.data = b0 :: 0 :: rest) :
    (readPacket r).2.data = rest ∧ (readPacket r).1 = .pkt (Packet.dispatch b0) := by
  have := C06_consumed r b0 [] rest (by simp) (by simpa [frameBytes, encVb, encVbAux] using hd)
  exact ⟨this.1, this.2.2.trans (frameOutcome_nil b0)⟩

/-- non-vacuity: PINGREQ, a content-malformed CONNACK (unknown property 0x7f) and a PUBACK, with
two trailing bytes, under a one-byte-at-a-time schedule -/
example :
    let r : Reader := { data := [0xc0, 0x00, 0x20, 0x05, 0x00, 0x00, 0x02, 0x7f, 0x00, 0x40, 0x02, 0x00, 0x01, 0xaa, 0xbb],
                        sched := List.replicate 20 1 }
    (readAll 3 r).1 = [.pkt (.pingreq { fixed := 0xc0 }), .err (.unknownProp 0x7f),
                        .pkt (.puback { fixed := 0x40, packetID := 1 })]
      ∧ (readAll 3 r).2.data = [0xaa, 0xbb] := by decide

end Mq
