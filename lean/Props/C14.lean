import Proofs.Tie.Retain
import Proofs.Tie.Globals
import Mq.Stream
import Mq.Ops
/-!
# C14 — decoded packets own their memory and packets do not interfere

The model has value semantics: a packet is a value, a pool of packets a list of values. That this
is the right model of the Go code — that no two packets and no packet and its input share mutable
memory — is what the property states; it rests on
* `C14_no_retain`, `C14_no_shared_state` (regenerated from the source on every run by the SSA effect
  analysis of `/verif/extract`): no decoder stores (a slice of) its input where it outlives the call,
  and no exported operation writes through a package-level variable (`mqtt5` included);
* the correspondence run: pool histories with the decoder input overwritten (`SCRIBBLE`) and all
  packets viewed after every step, against this value-semantics model.
Given that, the theorems below are the frame properties of the model.
-/
namespace Mq

abbrev Pool := List Packet

/-- operations on one packet of a pool -/
inductive PoolOp
  | set (op : SetOp)          -- any public setter or adder
  | decode (data : Bytes)     -- UnmarshalBinary
  | encode                    -- WriteTo / String / Dump / accessors: no effect on any packet
  | scribble                  -- the caller overwrites the bytes it passed to the last decode
deriving Repr, DecidableEq

def PoolOp.apply (p : Packet) : PoolOp → Packet
  | .set op => (p.apply op).getD p
  | .decode d => (p.unmarshal d).1
  | .encode => p
  | .scribble => p

def Pool.step (pool : Pool) (i : Nat) (op : PoolOp) : Pool :=
  match pool[i]? with
  | some p => pool.set i (op.apply p)
  | none => pool

def Pool.run (pool : Pool) : List (Nat × PoolOp) → Pool
  | [] => pool
  | (i, op) :: rest => (pool.step i op).run rest

/-- **source fact, regenerated on every run**: no `UnmarshalBinary` (of any of the 16 types and the
wire types) and not `ReadPacket` keeps a pointer into its input -/
theorem C14_no_retain : Facts.decodeRetains = [] := Tie.T5_no_retain

/-- **source fact, regenerated on every run**: no exported operation writes through a package-level
variable — the `mqtt5` protocol-name slice shared by every `NewConnect()` is never written through -/
theorem C14_no_shared_state : Facts.globalWrites = [] := Tie.T5_globals.1

/-- overwriting the decoder's input afterwards changes no accessor of any packet -/
theorem C14_scribble (pool : Pool) (i : Nat) : pool.step i .scribble = pool := by
  unfold Pool.step
  cases h : pool[i]? with
  | none => rfl
  | some p =>
    obtain ⟨hlt, rfl⟩ := List.getElem?_eq_some_iff.mp h
    exact List.set_getElem_self hlt

/-- decoding, encoding or modifying one packet never changes another -/
theorem C14_pool_frame (pool : Pool) (i j : Nat) (op : PoolOp) (h : i ≠ j) : (pool.step i op)[j]? = pool[j]? := by
  unfold Pool.step
  cases pool[i]? with
  | none => rfl
  | some p => simp [h]

/-- … over whole histories: a packet no operation of the history addresses keeps every accessor value -/
theorem C14_bystander (pool : Pool) (ops : List (Nat × PoolOp)) (j : Nat) (h : ∀ o ∈ ops, o.1 ≠ j) :
    (pool.run ops)[j]? = pool[j]? := by
  induction ops generalizing pool with
  | nil => rfl
  | cons o ops ih =>
    obtain ⟨i, op⟩ := o
    simp only [Pool.run]
    rw [ih _ (fun o ho => h o (List.mem_cons_of_mem _ ho))]
    exact C14_pool_frame pool i j op (h (i, op) (List.mem_cons_self))

/-- a frame decodes to the same packet regardless of what was processed before it: `ReadPacket`'s
result is a function of the stream alone (there is no decoder state for a history to change) -/
theorem C14_history_free (pool : Pool) (ops : List (Nat × PoolOp)) (r : Reader) :
    (fun (_ : Pool) => (readPacket r).1) (pool.run ops) = (readPacket r).1 := rfl

/-- non-vacuity: two CONNECT packets from `NewConnect()` (sharing `mqtt5` in Go); decoding into the
first one a frame with another protocol name leaves the second one's protocol name alone -/
example :
    let pool : Pool := [Packet.new 1, Packet.new 1]
    let pool' := pool.step 0 (.decode [0, 4, 0x58, 0x58, 0x58, 0x58, 5, 0, 0, 0, 0, 0, 0])
    (pool'[1]?.map Packet.view) = (pool[1]?.map Packet.view) ∧ pool'[0]? ≠ pool[0]? :=
  ⟨rfl, by decide +kernel⟩

end Mq
