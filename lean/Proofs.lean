import Proofs.Wire
import Proofs.Buf
import Proofs.Safe
import Proofs.Stream
import Proofs.Outcome
import Proofs.ReadPacket
import Proofs.PacketSafe
import Proofs.FrameRead
import Proofs.Vbint
import Proofs.ApplyOcc
import Proofs.Fixed
import Proofs.Stages
import Proofs.Reads
import Proofs.Bits
import Proofs.Setters
import Proofs.PropLoop
import Proofs.SpecBridge
import Proofs.Fields
import Proofs.DSimple
import Proofs.DSub
import Proofs.DPublish
import Proofs.DConnect
import Proofs.ConnectBody
import Proofs.RenderInv
import Proofs.Fill
import Proofs.FillPackets
import Proofs.RenderShape
import Proofs.RenderTotal
import Proofs.Tie
import Proofs.EBridge
import Proofs.ESimple
import Proofs.EPublish
import Proofs.EConnect
import Proofs.Inject
import Proofs.Reject
import Proofs.Cut
import Proofs.RejectPackets
import Proofs.RejectConnect
import Proofs.RejectProps
import Proofs.SpecParse
import Proofs.Reach
import Proofs.DConnectL
import Proofs.Codec
