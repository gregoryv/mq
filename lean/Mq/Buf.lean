import Mq.Wire
/-!
# Mq.Buf — `buffer.go`: the sticky-error cursor and the property loop

Representation: Go's `buffer{data, i, err}` is kept as `rest = data[i:]` and the status.
Every Go expression over `i` and `len(data)` used by the library is a function of `rest`:
`len(data) - b.i = rest.length`, `b.atEnd()`/`b.i == len(data)` is `rest = []`,
`b.i >= len(b.data)` is `rest = []`, and `b.i < end` for `end := b.i₀ + n` is
`rest₀.length - rest.length < n`.
-/
namespace Mq

structure Buf where
  rest : Bytes
  st : St := .ok
deriving Repr

/-- `buffer.get(v)`: no-op unless the status is `ok`; "missing data" when nothing is left;
otherwise decode at the cursor and advance by the recomputed width. `old` is what the
destination held before (returned unchanged on failure). -/
def Buf.get {α} (b : Buf) (dec : Dec α) (old : α) : Buf × α :=
  match b.st with
  | .ok =>
    if b.rest = [] then ({ b with st := .err .missing }, old)
    else match dec b.rest with
      | .ok v w =>
        -- `w := v.width(); if b.i+w > len(b.data) { b.err = ErrMissingData; return }` (repair of D13): the value is
        -- stored, the cursor stays
        if w ≤ b.rest.length then ({ rest := b.rest.drop w, st := .ok }, v) else ({ b with st := .err .missing }, v)
      | .err e => ({ b with st := .err e }, old)
      | .panic => ({ b with st := .panic }, old)
  | _ => (b, old)

/-! ## property values -/

inductive WKind | u8 | u16 | u32 | bool | bin | pair | vb
deriving Repr, DecidableEq

inductive WVal
  | u8 (v : UInt8) | u16 (v : UInt16) | u32 (v : UInt32) | bool (v : Bool)
  | bin (v : Bytes) | pair (k v : Bytes) | vb (n : Nat)
deriving Repr, DecidableEq, Inhabited

def WVal.kind : WVal → WKind
  | .u8 _ => .u8 | .u16 _ => .u16 | .u32 _ => .u32 | .bool _ => .bool
  | .bin _ => .bin | .pair _ _ => .pair | .vb _ => .vb

def encV : WVal → Bytes
  | .u8 v => [v]
  | .u16 v => encU16 v
  | .u32 v => encU32 v
  | .bool v => encBool v
  | .bin v => encBin v
  | .pair k v => encPair (k, v)
  | .vb n => encVb n

/-- `fillProp` writes nothing for the zero value (empty key for a user property). -/
def WVal.isZero : WVal → Bool
  | .u8 v => v == 0 | .u16 v => v == 0 | .u32 v => v == 0 | .bool v => !v
  | .bin v => v.isEmpty | .pair k _ => k.isEmpty | .vb n => n == 0

/-- `v.fillProp(buf, i, id)` -/
def encPropOpt (id : UInt8) (v : WVal) : Bytes := if v.isZero then [] else id :: encV v

/-- decoder of a property value of kind `k`. Destinations of `bin` properties are passed as
`old` by the caller (`oldOf id acc` in `getAnyLoop`); the two inline kinds use a fresh destination. -/
def decK (old : Bytes) : WKind → Dec WVal
  | .u8 => fun d => (decU8 d).map .u8
  | .u16 => fun d => (decU16 d).map .u16
  | .u32 => fun d => (decU32 d).map .u32
  | .bool => fun d => (decBool d).map .bool
  | .bin => fun d => (decBin old d).map .bin
  | .pair => fun d => (decPair d).map (fun kv => .pair kv.1 kv.2)
  | .vb => fun d => (decVb d).map .vb

structure PropOcc where
  id : UInt8
  val : WVal
deriving Repr, DecidableEq

abbrev PropTable := List (UInt8 × WKind)

/-- The body of `getAny`'s loop, `for b.i < end { … }`, collecting the decoded occurrences in
order. `n0` is `rest.length` when the loop was entered, `plen` the declared property length.
`oldOf id` is the current content of the `bin` destination `id` maps to (Go decodes into the
packet's field; see `decBin`). One unit of fuel per iteration; `hang` when it runs out. -/
def getAnyLoop (tbl : PropTable) (oldOf : UInt8 → List PropOcc → Bytes) (n0 plen : Nat) :
    Nat → Buf → List PropOcc → Buf × List PropOcc
  | 0, b, acc => ({ b with st := .hang }, acc)
  | fuel + 1, b, acc =>
    if n0 - b.rest.length < plen then
      let (b, id) := b.get decU8 0
      if b.st ≠ .ok then (b, acc)                         -- `if b.err != nil { return }`
      else match tbl.lookup id with
        | some k =>
          let (b', v) := b.get (decK (oldOf id acc) k) (.u8 0)
          -- on failure the occurrence is not recorded (the packet is dropped anyway)
          if b'.st = .ok then getAnyLoop tbl oldOf n0 plen fuel b' (acc ++ [⟨id, v⟩])
          else getAnyLoop tbl oldOf n0 plen fuel b' acc
        | none =>
          if id = 0x26 then                               -- UserProperty
            let (b', v) := b.get (decK [] .pair) (.u8 0)
            if b'.st = .ok then getAnyLoop tbl oldOf n0 plen fuel b' (acc ++ [⟨id, v⟩])
            else getAnyLoop tbl oldOf n0 plen fuel b' acc
          else if id = 0x0b then                          -- SubscriptionID
            let (b', v) := b.get (decK [] .vb) (.u8 0)
            if b'.st = .ok then getAnyLoop tbl oldOf n0 plen fuel b' (acc ++ [⟨id, v⟩])
            else getAnyLoop tbl oldOf n0 plen fuel b' acc
          else
            getAnyLoop tbl oldOf n0 plen fuel { b with st := .err (.unknownProp id) } acc
    else (b, acc)

/-- `buffer.getAny(fields, addProp)`. -/
def Buf.getAny (b : Buf) (tbl : PropTable) (oldOf : UInt8 → List PropOcc → Bytes) :
    Buf × List PropOcc :=
  if b.rest = [] then (b, [])                             -- `if b.atEnd() { return }`
  else
    let (b, plen) := b.get decVb 0
    getAnyLoop tbl oldOf b.rest.length plen (b.rest.length + 1) b []

/-- previous content is always empty: the common case of decoding into a fresh packet where a
`bin` property occurs at most once. Used only where stated. -/
def noOld : UInt8 → List PropOcc → Bytes := fun _ _ => []

/-- last non-empty `bin` value recorded for `id` so far, else `init id` — what the Go
destination field holds at that moment. -/
def lastBin (init : UInt8 → Bytes) (id : UInt8) (acc : List PropOcc) : Bytes :=
  acc.foldl (fun cur o => if o.id = id then (match o.val with | .bin v => v | _ => cur) else cur)
    (init id)

end Mq
