import Mq.Basic
/-!
# Mq.Wire — the wire types of `wiretypes.go`

Each Go wire type `T` has `fill`/`width` (modelled by `encT`, a byte list) and
`UnmarshalBinary` + `width()` (modelled by `decT : Dec _`, returning the decoded value together
with the width Go recomputes from it). Partial Go operations (slice index, slice expression)
are explicit `.panic` branches; the guards in front of them are the guards of the Go code.

Big-endian integers are modelled arithmetically (what `encoding/binary` computes).
-/
namespace Mq

/-! ## bits / wuint8 / Ident : one byte, `data[0]` unguarded (the guard is in `buffer.get`) -/

def decU8 : Dec UInt8
  | [] => .panic                       -- data[0] on an empty slice
  | a :: _ => .ok a 1

/-! ## wbool -/

def encBool (v : Bool) : Bytes := [if v then 1 else 0]

def decBool : Dec Bool
  | [] => .panic                       -- switch data[0]
  | a :: _ => if a = 0 then .ok false 1 else if a = 1 then .ok true 1 else .err .badBool

/-! ## wuint16 -/

def encU16 (v : UInt16) : Bytes := [UInt8.ofNat (v.toNat / 256), UInt8.ofNat (v.toNat % 256)]

def decU16 : Dec UInt16 := fun d =>
  if d.length < 2 then .err .missing   -- `if len(data) < 2 { return missing data }`
  else match d with
    | a :: b :: _ => .ok (UInt16.ofNat (a.toNat * 256 + b.toNat)) 2
    | _ => .panic                      -- binary.BigEndian.Uint16 on a short slice

/-! ## wuint32 -/

def encU32 (v : UInt32) : Bytes :=
  [UInt8.ofNat (v.toNat / 16777216), UInt8.ofNat (v.toNat / 65536 % 256),
   UInt8.ofNat (v.toNat / 256 % 256), UInt8.ofNat (v.toNat % 256)]

def decU32 : Dec UInt32 := fun d =>
  if d.length < 4 then .err .missing
  else match d with
    | a :: b :: c :: e :: _ =>
      .ok (UInt32.ofNat (((a.toNat * 256 + b.toNat) * 256 + c.toNat) * 256 + e.toNat)) 4
    | _ => .panic

/-! ## bindata / wstring : two-byte length prefix

`fill` writes `wuint16(len(v))` (which wraps for `len(v) ≥ 65536`) followed by all bytes. -/

def encBin (v : Bytes) : Bytes :=
  UInt8.ofNat (v.length / 256) :: UInt8.ofNat (v.length % 256) :: v

/-- the two-byte length prefix as `bindata.UnmarshalBinary` reads it -/
def binLen (d : Bytes) : Nat :=
  match decU16 d with
  | .ok v _ => v.toNat
  | _ => 0                             -- `_ = length.UnmarshalBinary(data)`: error ignored, length stays 0

/-- `bindata.UnmarshalBinary` then `width()`. `old` is the destination's previous content:
for a zero length prefix Go returns without touching the destination, so both the value and
the width `2 + len(*v)` are those of the old content. -/
def decBin (old : Bytes) : Dec Bytes := fun d =>
  let length : Nat := binLen d
  if d.length < length + 2 then .err .missing
  else if length = 0 then .ok old (2 + old.length)
  else .ok ((d.drop 2).take length) (2 + length)   -- make + copy(data[2:int(length)+2])

/-! ## rawdata : the rest of the frame -/

def decRaw : Dec Bytes := fun d => .ok d d.length

/-! ## UserProp : two strings -/

def encPair (kv : Bytes × Bytes) : Bytes := encBin kv.1 ++ encBin kv.2

def decPair : Dec (Bytes × Bytes) := fun d =>
  match decBin [] d with
  | .ok k _ =>
    if d.length < k.length + 2 then .panic          -- data[i:] with i > len(data)
    else match decBin [] (d.drop (k.length + 2)) with
      | .ok v _ => .ok (k, v) (2 + k.length + (2 + v.length))
      | .err e => .err e
      | .panic => .panic
  | .err e => .err e
  | .panic => .panic

/-! ## vbint : variable byte integer -/

/-- `vbint.fill`: the loop `for { b := x % 128; x /= 128; if x > 0 { b |= 128 }; …; if x == 0 break }`.
Structural recursion on a fuel argument (so that the kernel can evaluate it); `encVb_eq` in
`Proofs.Vbint` is the loop equation without fuel. -/
def encVbAux : Nat → Nat → Bytes
  | 0, x => [UInt8.ofNat x]
  | fuel + 1, x =>
    if x < 128 then [UInt8.ofNat x] else UInt8.ofNat (x % 128 + 128) :: encVbAux fuel (x / 128)

def encVb (x : Nat) : Bytes := encVbAux x x

/-- `vbint.width()` = `fill(_LEN, 0)`. -/
def vbWidth (x : Nat) : Nat := (encVb x).length

/-- The in-memory decoder loop (`vbint.UnmarshalBinary`): `range data` with multiplier and
accumulator; the size guard sits after the addition, exactly as in Go; running out of bytes
before a terminator is "missing data". -/
def decVbLoop : Bytes → Nat → Nat → DecRes Nat
  | [], _, _ => .err .missing
  | b :: rest, mult, acc =>
    let acc' := acc + (b.toNat % 128) * mult
    if mult > 128 * 128 * 128 then .err .sizeExceeded
    else if b.toNat < 128 then .ok acc' (vbWidth acc')
    else decVbLoop rest (mult * 128) acc'

def decVb : Dec Nat := fun d => decVbLoop d 1 0   -- (`len(data) == 0` ⇒ missing is the `[]` case)

end Mq
